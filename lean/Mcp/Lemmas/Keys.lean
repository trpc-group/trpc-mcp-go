/-
  Pending-table keys of an honest answer (`Mcp.Model.Pending`): what the client tables (C01) and the server tables (C05)
  share.  Up to 2^53 an id survives the wire unchanged, so the key of the answer is the key of the float64 holding the
  request's number, whatever the kind; every kind but `%v` then computes the key the request was registered under.
-/
import Mcp.Model.Pending
namespace Mcp.Pending
open Mcp.Str Mcp.Ids

theorem wireOf_le {n : Nat} (h : n ≤ 2 ^ 53) : wireOf n = .num (Int.ofNat n) := by
  simp [wireOf, echoId, encodeId, decodeId, reencodeId, f64OfInt, f64OfNat_le h]

theorem keyOfWire_wireOf (k : KeyKind) {n : Nat} (h : n ≤ 2 ^ 53) :
    keyOfWire k (wireOf n) = keyOfDec k (.f64 (Int.ofNat n)) := by
  simp [wireOf_le h, keyOfWire, decodeId, f64OfInt, f64OfNat_le h]

/-- **Key round trip**: for every kind but `%v`, the key computed from the id of the answer to request `n ≤ 2^53` is the key
    the request was registered under (`other`: neither side has a key). -/
theorem key_roundtrip (k : KeyKind) (hk : k ≠ .sprintfV) {n : Nat} (h : n ≤ 2 ^ 53) :
    keyOfWire k (wireOf n) = keyOfReq k (.int (Int.ofNat n)) := by
  rw [keyOfWire_wireOf k h]
  cases k with
  | sprintfV => exact absurd rfl hk
  | idKey | other => rfl
  | int64 => simp only [keyOfDec, keyOfReq, i64OfF64_ofNat (show n < 2 ^ 63 by omega)]
  | uint64 => simp only [keyOfDec, keyOfReq, u64OfF64_ofNat (show n < 2 ^ 64 by omega)]

end Mcp.Pending
