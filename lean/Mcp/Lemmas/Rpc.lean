/-
  Lemmas about the request-serving model `Mcp.Rpc`, shared by the property files C01 (echo), C03, C06 and C14.

  * the dispatchers: one case analysis of the table (`dispatch_cases`); the switch of the stdio server is the table restricted
    to its eight methods (`dispatchStdio_eq`).
  * the three servers, any input: a reaction is a response whose messages are nothing, an error for a request that could not
    be identified, or the answer of a dispatcher to the typed request (`Reaction.Emits`: `serveStdio_emits`, `serveSSE_emits`,
    `serveStreamable_emits`; `serveStreamable_step` also says what becomes of the session table). Well-formedness of every
    message and the absence of panics are read off that.
  * a well-formed envelope in an accepted session: the three decoders bind the same request and each server emits the answer
    of its dispatcher (`serve_wfEnvelope`). The codes on the wire, "exactly one message", the id echo and the equality of
    the transports are read off that.
-/
import Mcp.Model.Rpc
import Mcp.Model.RpcSpec
namespace Mcp.Rpc
open Mcp.Str Mcp.Json Mcp.Content Mcp.RpcSpec Mcp.Session

theorem f64Overflow_eq : f64Overflow = 2 ^ 1024 - 2 ^ 970 := by decide +kernel

theorem two53_lt_overflow : 9007199254740992 < f64Overflow := by decide +kernel

/-! ## the dispatchers -/

theorem ite_cases {α : Sort _} {c : Prop} [Decidable c] {a b : α} {P : α → Prop} (ha : c → P a) (hb : ¬c → P b) :
    P (if c then a else b) := by
  split
  · exact ha ‹_›
  · exact hb ‹_›

/-- `checkInitializeParams` lets through exactly the parameters on which the two bare assertions of `handleInitialize` succeed -/
theorem handleInitialize_cases (reg : Registry) (req : Req) :
    (∃ msg, handleInitialize reg req = .ok (.error codeInvalidParams msg)) ∨
    (∃ m v, req.params = some (.obj m) ∧ lookup m t!"protocolVersion" = some (.str v) ∧
      handleInitialize reg req = .ok (.result (initResult reg v))) := by
  unfold handleInitialize checkInitializeParams bareParamsMap bareProtocolVersion lookupStr?
  rcases req with ⟨id, method, _ | p⟩
  · exact .inl ⟨_, rfl⟩
  cases p with
  | obj m =>
    dsimp only [asObj?]
    cases hl : lookup m t!"protocolVersion" with
    | none => exact .inl ⟨_, rfl⟩
    | some v =>
      cases v with
      | str v => exact .inr ⟨m, v, rfl, hl, rfl⟩
      | _ => exact .inl ⟨_, rfl⟩
  | _ => exact .inl ⟨_, rfl⟩

theorem dispatch_cases (reg : Registry) (req : Req) (P : Outcome Ans → Prop)
    (init : req.method = t!"initialize" → P (handleInitialize reg req))
    (ping : req.method = t!"ping" → P (.ok (.result (.obj []))))
    (toolsList : req.method = t!"tools/list" → P (.ok (handleListTools reg)))
    (toolsCall : req.method = t!"tools/call" → P (.ok (handleCallTool reg req)))
    (resourcesList : req.method = t!"resources/list" → P (.ok (handleListResources reg)))
    (resourcesRead : req.method = t!"resources/read" → P (.ok (handleReadResource reg req)))
    (templatesList : req.method = t!"resources/templates/list" → P (.ok (handleListTemplates reg)))
    (subscribe : req.method = t!"resources/subscribe" → P (.ok (handleSubscribe reg req)))
    (unsubscribe : req.method = t!"resources/unsubscribe" → P (.ok (handleUnsubscribe reg req)))
    (promptsList : req.method = t!"prompts/list" → P (.ok (handleListPrompts reg)))
    (promptsGet : req.method = t!"prompts/get" → P (.ok (handleGetPrompt reg req)))
    (complete : req.method = t!"completion/complete" → P (.ok (handleCompletion reg req)))
    (unknown : req.method ∉ tableMethods → P (.ok (.error codeMethodNotFound t!"method not found"))) :
    P (dispatch reg req) :=
  ite_cases init fun h1 => ite_cases ping fun h2 => ite_cases toolsList fun h3 => ite_cases toolsCall fun h4 =>
  ite_cases resourcesList fun h5 => ite_cases resourcesRead fun h6 => ite_cases templatesList fun h7 =>
  ite_cases subscribe fun h8 => ite_cases unsubscribe fun h9 => ite_cases promptsList fun h10 =>
  ite_cases promptsGet fun h11 => ite_cases complete fun h12 =>
  unknown (by simp only [tableMethods, List.mem_cons, List.not_mem_nil, h1, h2, h3, h4, h5, h6, h7, h8, h9, h10, h11, h12,
    or_self, not_false_eq_true])

theorem dispatch_ok (reg : Registry) (req : Req) : ∃ a, dispatch reg req = .ok a := by
  apply dispatch_cases reg req (fun out => ∃ a, out = .ok a) <;> intro _
  case init => rcases handleInitialize_cases reg req with ⟨_, h⟩ | ⟨_, _, _, _, h⟩ <;> exact ⟨_, h⟩
  all_goals exact ⟨_, rfl⟩

theorem dispatch_unknown (reg : Registry) (req : Req) (h : req.method ∉ tableMethods) :
    dispatch reg req = .ok (.error codeMethodNotFound t!"method not found") := by
  simp only [tableMethods, List.mem_cons, List.not_mem_nil, or_false, not_or] at h
  simp only [dispatch, h, if_false]

theorem dispatchStdio_unknown (reg : Registry) (req : Req) (h : req.method ∉ stdioMethods) :
    dispatchStdio reg req = .ok (.error codeMethodNotFound t!"Method not found") := by
  simp only [stdioMethods, List.mem_cons, List.not_mem_nil, or_false, not_or] at h
  simp only [dispatchStdio, h, if_false]

theorem dispatch_common (reg : Registry) (req : Req) (h : req.method ∈ stdioMethods) :
    dispatchStdio reg req = dispatch reg req := by
  obtain ⟨id, m, p⟩ := req
  simp only [stdioMethods, List.mem_cons, List.not_mem_nil, or_false] at h
  rcases h with rfl | rfl | rfl | rfl | rfl | rfl | rfl | rfl <;> rfl

theorem dispatchStdio_eq (reg : Registry) (req : Req) :
    dispatchStdio reg req =
      if req.method ∈ stdioMethods then dispatch reg req else .ok (.error codeMethodNotFound t!"Method not found") := by
  split
  · exact dispatch_common reg req ‹_›
  · exact dispatchStdio_unknown reg req ‹_›

theorem dispatchStdio_ok (reg : Registry) (req : Req) : ∃ a, dispatchStdio reg req = .ok a := by
  rw [dispatchStdio_eq]
  split
  · exact dispatch_ok reg req
  · exact ⟨_, rfl⟩

theorem stdioMethods_sub_table : ∀ m ∈ stdioMethods, m ∈ tableMethods := by decide

/-! ### the Accept header parser never indexes out of range -/

theorem splitOn_ne_nil (sep : Nat) (s : Text) : splitOn sep s ≠ [] := by
  cases s with
  | nil => simp [splitOn]
  | cons c rest =>
    unfold splitOn
    split
    · simp
    · split <;> simp

theorem mediaTypeOf_ok (item : Text) : ∃ mt, mediaTypeOf item = .ok mt := by
  unfold mediaTypeOf goIndex
  cases h : splitOn 59 (goTrimSpace item) with
  | nil => exact absurd h (splitOn_ne_nil _ _)
  | cons p ps => exact ⟨p, by simp⟩

theorem parseAcceptItems_ok (items : List Text) : ∃ as, parseAcceptItems items = .ok as := by
  induction items with
  | nil => exact ⟨[], rfl⟩
  | cons a rest ih =>
    obtain ⟨mt, hm⟩ := mediaTypeOf_ok a
    obtain ⟨ms, hr⟩ := ih
    exact ⟨if mt.isEmpty then ms else mt :: ms, by simp [parseAcceptItems, hm, hr]⟩

theorem parseAccept_ok (h : Text) : ∃ as, parseAccept h = .ok as := by
  unfold parseAccept
  split
  · exact ⟨[], rfl⟩
  · exact parseAcceptItems_ok _

theorem chooseSSE_ok (postSSE : Bool) (h : Text) : ∃ b, chooseSSE postSSE h = .ok b := by
  obtain ⟨as, ha⟩ := parseAccept_ok h
  cases postSSE <;> simp [chooseSSE, ha]

/-! ## well-formed envelopes: what the three decoders make of them -/

theorem lookup_none_of_hasKey {o : Obj} {k : Text} (h : hasKey o k = false) : lookup o k = none := by
  simpa [hasKey] using h

theorem foldKey_injOn_envelopeKeys (k f : Text) (hk : k ∈ envelopeKeys) (hf : f ∈ envelopeKeys) : (foldKey k == foldKey f) = decide (k = f) := by
  simp [envelopeKeys] at hk hf
  rcases hk with rfl | rfl | rfl | rfl <;> rcases hf with rfl | rfl | rfl | rfl <;> decide

theorem onlyKeys_cons {k : Text} {v : Json} {rest : Obj} {ks : List Text} :
    onlyKeys ((k, v) :: rest) ks = true ↔ k ∈ ks ∧ onlyKeys rest ks = true := by
  simp [onlyKeys]

theorem fieldVals_canonical (o : Obj) (hn : keysNodup o = true) (ho : onlyKeys o envelopeKeys = true) (f : Text) (hf : f ∈ envelopeKeys) :
    fieldVals o f = (lookup o f).toList := by
  induction o with
  | nil => rfl
  | cons kv rest ih =>
    obtain ⟨k, v⟩ := kv
    simp only [keysNodup, Bool.and_eq_true, Bool.not_eq_true'] at hn
    rw [onlyKeys_cons] at ho
    have ih := ih hn.2 ho.2
    unfold fieldVals at ih ⊢
    rw [List.filter_cons, foldKey_injOn_envelopeKeys k f ho.1 hf]
    by_cases hkf : k = f
    · subst hkf
      rw [lookup_cons_eq, decide_eq_true rfl, if_pos rfl, List.map_cons, ih, lookup_none_of_hasKey hn.1]
      rfl
    · rw [lookup_cons_ne _ _ _ _ hkf, decide_eq_false hkf, if_neg Bool.false_ne_true, ih]

theorem goDecodeFields_lookup (o m : Obj) (hn : keysNodup o = true) (h : goDecodeFields o = some m) (k : Text) :
    (∀ v, lookup o k = some v → ∃ w, goDecode v = some w ∧ lookup m k = some w) ∧ (lookup o k = none → lookup m k = none) := by
  induction o generalizing m k with
  | nil => cases h; exact ⟨nofun, id⟩
  | cons kv rest ih =>
    obtain ⟨k0, v0⟩ := kv
    simp only [keysNodup, Bool.and_eq_true, Bool.not_eq_true'] at hn
    unfold goDecodeFields at h
    split at h
    next w m' hw hm' =>
      have ih := ih m' hn.2 hm'
      -- `k0` is bound in the rest neither before nor after decoding, so the new binding goes in front
      have : hasKey m' k0 = false := by rw [hasKey, (ih k0).2 (lookup_none_of_hasKey hn.1)]; rfl
      simp only [this, Bool.false_eq_true, if_false, Option.some.injEq] at h
      subst h
      by_cases e : k0 = k
      · subst e
        rw [lookup_cons_eq, lookup_cons_eq]
        exact ⟨fun v hv => ⟨w, Option.some.inj hv ▸ hw, rfl⟩, nofun⟩
      · rw [lookup_cons_ne _ _ _ _ e, lookup_cons_ne _ _ _ _ e]
        exact ih k
    · cases h

theorem lookup_of_onlyKeys {o : Obj} {ks : List Text} (h : onlyKeys o ks = true) {k : Text} (hk : k ∉ ks) : lookup o k = none := by
  induction o with
  | nil => rfl
  | cons kv rest ih =>
    obtain ⟨k0, v0⟩ := kv
    rw [onlyKeys_cons] at h
    rw [lookup_cons_ne _ _ _ _ fun e : k0 = k => hk (e ▸ h.1)]
    exact ih h.2

theorem goDecode_null {v : Json} (h : goDecode v = some .null) : v = .null := by
  cases v <;> simp [goDecode] at h ⊢

/-- the `params` a decoder hands to the managers (`none`: nil interface) -/
def paramsOf (m : Obj) : Option Json :=
  match lookup m t!"params" with
  | none => none
  | some .null => none
  | some w => some w

theorem reqIs_iff {o : Obj} {k : Text} {p : Json → Bool} : reqIs o k p = true ↔ ∃ v, lookup o k = some v ∧ p v = true := by
  unfold reqIs
  cases lookup o k <;> simp

theorem wfEnvelope_fields (o : Obj) (h : wfEnvelope (.obj o) = true) :
    keysNodup o = true ∧ onlyKeys o envelopeKeys = true ∧ lookup o t!"jsonrpc" = some (.str t!"2.0") ∧
    (∃ id, lookup o t!"id" = some id ∧ wfId id = true) ∧ ∃ m, lookup o t!"method" = some (.str m) := by
  simp only [wfEnvelope, Bool.and_eq_true, reqIs_iff] at h
  obtain ⟨⟨⟨⟨h1, h2⟩, v, hv, h3⟩, h4⟩, w, hm, h5⟩ := h
  cases v with
  | str s =>
    cases w with
    | str m => exact ⟨h1, h2, by rw [hv, eq_of_beq h3], h4, m, hm⟩
    | _ => cases h5
  | _ => cases h3

theorem decode_wfEnvelope (o mm : Obj) (h : wfEnvelope (.obj o) = true) (hrep : goDecodeFields o = some mm) :
    ∃ id id' m, lookup o t!"id" = some id ∧ goDecode id = some id' ∧ lookup o t!"method" = some (.str m) ∧
      decodeRequest (.obj o) = some ⟨some id', m, paramsOf mm⟩ ∧ decodeBase (.obj o) = some ⟨m, some id'⟩ ∧
      classifyStdio (.obj o) = some .request := by
  obtain ⟨hn, ho, hv, ⟨id, hid, hwid⟩, ⟨m, hm⟩⟩ := wfEnvelope_fields o h
  have fv := fieldVals_canonical o hn ho
  have gl := goDecodeFields_lookup o mm hn hrep
  obtain ⟨id', hid', hmid⟩ := (gl _).1 id hid
  have e1 : strField o t!"jsonrpc" = some t!"2.0" := by rw [strField, fv _ (by decide), hv]; rfl
  have e2 : strField o t!"method" = some m := by rw [strField, fv _ (by decide), hm]; rfl
  have e3 : anyField o t!"id" = some (some id') := by
    rw [anyField, fv _ (by decide), hid]
    cases id' with
    | null => cases goDecode_null hid'; cases hwid
    | _ => simp only [Option.toList, anyFieldAux, hid']
  have e4 : anyField o t!"params" = some (paramsOf mm) := by
    rw [anyField, fv _ (by decide), paramsOf]
    cases hp : lookup o t!"params" with
    | none => rw [(gl _).2 hp]; rfl
    | some p =>
      obtain ⟨w, hw, hmw⟩ := (gl _).1 p hp
      simp only [hmw, Option.toList, anyFieldAux, hw]
      cases w <;> rfl
  refine ⟨id, id', m, hid, hid', hm, ?_, ?_, ?_⟩
  · simp [decodeRequest, asMapTarget, e1, e2, e3, e4]
  · simp [decodeBase, asMapTarget, e1, e2, e3]
  · obtain ⟨_, hw, j1⟩ := (gl _).1 _ hv
    cases hw
    have j2 := (gl t!"error").2 (lookup_of_onlyKeys ho (by decide))
    have j3 := (gl t!"result").2 (lookup_of_onlyKeys ho (by decide))
    simp [classifyStdio, hrep, lookupStr?, hasKey, j1, hmid, j2, j3, version20]

/-! ## result shapes: what the encoders produce satisfies the MCP schema predicates of `Mcp.RpcSpec`

An encoder writes a fixed sequence of members, some of them only when a flag holds (`omitempty`); the schema predicates look
members up by name. For each pattern of flags both sides evaluate. -/

theorem wf_resourceContents (rc : ResourceContents) : wfResourceContents (encodeResourceContents rc) = true := by
  cases rc with
  | text uri mime text => simp only [encodeResourceContents]; cases (!mime.isEmpty) <;> rfl
  | blob uri mime blob => simp only [encodeResourceContents]; cases (!mime.isEmpty) <;> rfl

theorem wf_content (c : Content) : wfContent (encodeContent c) = true := by
  cases c with
  | embedded r a =>
    have he := wf_resourceContents r
    simp only [encodeContent]
    generalize encodeResourceContents r = e at he
    cases a <;> exact he
  | _ => rename_i a; cases a <;> rfl

theorem all_map_of_forall {α : Type} {enc : α → Json} {p : Json → Bool} {xs : List α} (h : ∀ x ∈ xs, p (enc x) = true) :
    (xs.map enc).all p = true := by
  simp only [List.all_map, List.all_eq_true, Function.comp]
  exact h

theorem wfResult_toolsCall (o : Obj) : wfResult t!"tools/call" (.obj o) =
    (optIs o t!"_meta" isObj && (listOf o t!"content" wfContent && optIs o t!"isError" isBool)) := rfl

theorem wfResult_promptsGet (o : Obj) : wfResult t!"prompts/get" (.obj o) =
    (optIs o t!"_meta" isObj && (optIs o t!"description" isStr && listOf o t!"messages" wfPromptMessage)) := rfl

theorem wf_callResult (r : CallToolResult) (cs : List Content) (hc : r.content = some cs) :
    wfResult t!"tools/call" (encodeResult r) = true := by
  have hl : (cs.map encodeContent).all wfContent = true := all_map_of_forall fun c _ => wf_content c
  simp only [encodeResult, hc, sliceJson, metaField, wfResult_toolsCall, Bool.and_eq_true]
  generalize cs.map encodeContent = xs at hl
  cases r.metaMap.isEmpty <;> cases r.structured <;> cases r.isError <;> exact ⟨rfl, hl, rfl⟩

theorem wf_promptMessage (m : PromptMessage) (hr : roleOk m.role = true) (c : Content) (hc : m.content = some c) :
    wfPromptMessage (encodePromptMessage m) = true := by
  have := wf_content c
  simp [roleOk] at hr
  simp [encodePromptMessage, wfPromptMessage, reqIs, lookup, hc, encodeContentOpt, this, wfRole, hr]

theorem wf_getPrompt (r : GetPromptResult) (ms : List PromptMessage) (hm : r.messages = some ms) (h : promptConforms r) :
    wfResult t!"prompts/get" (encodeGetPrompt r) = true := by
  have hl : (ms.map encodePromptMessage).all wfPromptMessage = true := all_map_of_forall fun m hmem => by
    obtain ⟨hr, c, hc⟩ := h m (by simp [hm, hmem])
    exact wf_promptMessage m hr c hc
  simp only [encodeGetPrompt, hm, sliceJson, metaField, wfResult_promptsGet, Bool.and_eq_true]
  generalize ms.map encodePromptMessage = xs at hl
  cases r.metaMap.isEmpty <;> cases (!r.description.isEmpty) <;> exact ⟨rfl, rfl, hl⟩

theorem wf_readResource (cs : List ResourceContents) : wfResult t!"resources/read" (encodeReadResource (some cs)) = true :=
  all_map_of_forall (p := wfResourceContents) fun c _ => wf_resourceContents c

theorem wf_tool (t : ToolDesc) (s : Obj) (hs : t.inputSchema = some (.obj s)) (ht : lookup s t!"type" = some (.str t!"object")) :
    wfTool (encodeTool t) = true := by
  have hi : wfInputSchema (.obj s) = true := by simp only [wfInputSchema, reqIs, ht]; rfl
  simp only [encodeTool, hs, wfTool, Bool.and_eq_true]
  generalize Json.obj s = sch at hi
  cases (!t.description.isEmpty) <;> cases t.outputSchema <;> cases t.annotations <;> exact ⟨⟨⟨rfl, rfl⟩, hi⟩, rfl⟩

theorem wf_listTools (ds : List ToolDesc)
    (h : ∀ d ∈ ds, ∃ s, d.inputSchema = some (.obj s) ∧ lookup s t!"type" = some (.str t!"object")) :
    wfResult t!"tools/list" (encodeListTools ds) = true :=
  (Bool.and_true _).trans (all_map_of_forall fun d hd => by
    obtain ⟨s, hs, hty⟩ := h d hd
    exact wf_tool d s hs hty)

theorem wf_promptArg (a : PromptArg) : wfPromptArgument (encodePromptArg a) = true := by
  unfold encodePromptArg
  cases (!a.desc.isEmpty) <;> cases a.required <;> rfl

theorem wf_prompt (p : PromptEntry) : wfPrompt (encodePrompt p) = true := by
  have hl : (p.args.map encodePromptArg).all wfPromptArgument = true := all_map_of_forall fun a _ => wf_promptArg a
  unfold encodePrompt
  generalize p.args.map encodePromptArg = xs at hl
  cases (!p.desc.isEmpty) <;> cases (!p.args.isEmpty) <;> first | rfl | exact hl

theorem wf_listPrompts (ps : List PromptEntry) : wfResult t!"prompts/list" (.obj [(t!"prompts", .arr (ps.map encodePrompt))]) = true :=
  (Bool.and_true _).trans (all_map_of_forall fun p _ => wf_prompt p)

theorem wf_resource (r : ResEntry) : wfResource (encodeResource r) = true := by
  unfold encodeResource
  cases (!r.desc.isEmpty) <;> cases (!r.mime.isEmpty) <;> cases (r.size != 0) <;> rfl

theorem wf_listResources (rs : List ResEntry) : wfResult t!"resources/list" (.obj [(t!"resources", .arr (rs.map encodeResource))]) = true :=
  (Bool.and_true _).trans (all_map_of_forall fun r _ => wf_resource r)

theorem wf_initResult (reg : Registry) (v : Text) : wfResult t!"initialize" (initResult reg v) = true := rfl

theorem findPrompt_mem {ps : List PromptEntry} {n : Text} {p : PromptEntry} (h : findPrompt ps n = some p) : p ∈ ps ∧ p.name = n := by
  unfold findPrompt at h
  exact ⟨List.mem_of_find?_eq_some h, by simpa using List.find?_some h⟩

theorem findResource_mem {rs : List ResEntry} {u : Text} {r : ResEntry} (h : findResource rs u = some r) : r ∈ rs ∧ r.uri = u := by
  unfold findResource at h
  exact ⟨List.mem_of_find?_eq_some h, by simpa using List.find?_some h⟩

theorem toolArguments_cases {m : Obj} {x : Except Ans (Option Obj)} (h : toolArguments m = x) :
    (argumentsOk m = true ∧ ∃ a, x = .ok a) ∨ (argumentsOk m = false ∧ ∃ msg, x = .error (.error codeInvalidParams msg)) := by
  subst h
  unfold argumentsOk toolArguments
  cases lookup m t!"arguments" with
  | none => exact .inl ⟨rfl, _, rfl⟩
  | some v =>
    cases v with
    | null | obj _ => exact .inl ⟨rfl, _, rfl⟩
    | _ => exact .inr ⟨rfl, _, rfl⟩

theorem runTool_wf {tool : ToolEntry} {a : Option Obj} {r : Json} (hr : runTool tool a = .result r) :
    wfResult t!"tools/call" r = true := by
  unfold runTool at hr
  split at hr <;> cases hr
  exact wf_callResult _ _ rfl

/-! A manager's answer is a result in its last branch only: in every other one `hr` equates an error with a result. -/

theorem handleCallTool_wf {reg : Registry} {req : Req} {r : Json} (hr : handleCallTool reg req = .result r) :
    wfResult t!"tools/call" r = true := by
  unfold handleCallTool at hr
  repeat' split at hr
  all_goals try cases hr
  · next he => obtain ⟨_, _, h⟩ | ⟨_, _, h⟩ := toolArguments_cases he <;> cases h
  · exact runTool_wf hr

theorem handleGetPrompt_wf {reg : Registry} (h : reg.Conforming) {req : Req} {r : Json}
    (hr : handleGetPrompt reg req = .result r) : wfResult t!"prompts/get" r = true := by
  unfold handleGetPrompt at hr
  repeat' split at hr
  all_goals try cases hr
  next p hfind =>
  unfold runPrompt at hr
  split at hr <;> cases hr
  next r' hrun =>
  exact wf_getPrompt _ _ rfl (h.prompts p (findPrompt_mem hfind).1 _ r' hrun)

theorem handleReadResource_wf {reg : Registry} {req : Req} {r : Json} (hr : handleReadResource reg req = .result r) :
    wfResult t!"resources/read" r = true := by
  unfold handleReadResource at hr
  repeat' split at hr
  all_goals try cases hr
  unfold runResource at hr
  split at hr <;> cases hr
  exact wf_readResource _

/-! ## the request as the spec reads it vs. as the struct decoder binds it -/

/-- a lower-case letter other than `k` and `s`, onto which U+212A and U+017F fold -/
abbrev plainLower (c : Nat) : Prop := 97 ≤ c ∧ c ≤ 122 ∧ c ≠ 107 ∧ c ≠ 115

theorem foldChar_iff (x c : Nat) (hc : plainLower c) :
    (foldChar x = foldChar c) ↔ (lowerChar x = c) := by
  obtain ⟨h1, h2, h3, h4⟩ := hc
  rw [show foldChar c = c - 32 from if_pos ⟨h1, h2⟩]
  unfold foldChar lowerChar
  split <;> split <;> (try split) <;> (try split) <;> omega

theorem foldKey_iff (k n : Text) (hn : ∀ c ∈ n, plainLower c) : (foldKey k = foldKey n) ↔ (toLower k = n) := by
  induction k generalizing n with
  | nil => cases n <;> simp [foldKey, toLower]
  | cons x xs ih =>
    cases n with
    | nil => simp [foldKey, toLower]
    | cons c cs =>
      have h1 := foldChar_iff x c (hn c (by simp))
      have h2 := ih cs (fun d hd => hn d (by simp [hd]))
      simp only [foldKey, toLower, List.map_cons, List.cons.injEq] at h2 ⊢
      rw [h1, h2]

theorem fieldVals_loose (o : Obj) (n : Text) (hn : ∀ c ∈ n, plainLower c) : fieldVals o n = (membersLoose o n).map (·.2) := by
  unfold fieldVals membersLoose
  congr 2
  funext kv
  rw [Bool.eq_iff_iff, beq_iff_eq, beq_iff_eq]
  exact foldKey_iff kv.1 n hn

theorem f64RoundInt_exact (i : Int) (h : i.natAbs ≤ two53) : f64RoundInt i = i := by
  cases i with
  | ofNat n =>
    have : n ≤ two53 := by simpa [Int.natAbs] using h
    simp [f64RoundInt, f64RoundNat, this]
  | negSucc n =>
    have : n + 1 ≤ two53 := by simpa [Int.natAbs] using h
    simp [f64RoundInt, f64RoundNat, this, Int.negSucc_eq]

theorem nearestDoubleNat_eq (n : Nat) : nearestDoubleNat n = f64RoundNat n := by
  unfold nearestDoubleNat f64RoundNat two53
  split
  · rfl
  · next h =>
    -- the last bit a double keeps weighs 2^k with k ≥ 1: half of it is 2^(k−1)
    have h2 : 2 ^ (Nat.log2 n - 52) = 2 * 2 ^ (Nat.log2 n - 52 - 1) := by
      rw [← Nat.pow_succ']
      congr 1
      have : 53 ≤ Nat.log2 n := (Nat.le_log2 (by omega)).mpr (by omega)
      omega
    simp only [Nat.shiftRight_eq_div_pow, Nat.shiftLeft_eq]
    exact ite_congr (propext (by omega)) (fun _ => rfl) (fun _ => rfl)

/-- half a unit in the last place a double keeps -/
theorem nearestDoubleNat_close (n : Nat) :
    2 * (nearestDoubleNat n - n) ≤ 2 ^ (Nat.log2 n - 52) ∧ 2 * (n - nearestDoubleNat n) ≤ 2 ^ (Nat.log2 n - 52) := by
  unfold nearestDoubleNat
  split
  · simp
  · dsimp only
    have hlt := Nat.mod_lt n (Nat.pow_pos (by decide) : 0 < 2 ^ (Nat.log2 n - 52))
    have hdm := Nat.div_add_mod' n (2 ^ (Nat.log2 n - 52))
    rw [Nat.add_one_mul (n / 2 ^ (Nat.log2 n - 52))]
    split <;> omega

theorem nearestDouble_eq (i : Int) : nearestDouble i = f64RoundInt i := by
  cases i <;> simp [nearestDouble, f64RoundInt, nearestDoubleNat_eq]

theorem nearestDoubleNat_pos (n : Nat) (hn : 0 < n) : 0 < nearestDoubleNat n := by
  unfold nearestDoubleNat
  split
  · exact hn
  · -- the last bit kept weighs no more than the leading one, so the quotient is at least 1
    have hd : 2 ^ (Nat.log2 n - 52) ≤ n :=
      Nat.le_trans (Nat.pow_le_pow_right (by decide) (Nat.sub_le _ _)) (Nat.log2_self_le (by omega))
    have hq := Nat.div_pos hd (Nat.pow_pos (by decide))
    dsimp only
    split
    · exact Nat.mul_pos (Nat.succ_pos _) (Nat.pow_pos (by decide))
    · exact Nat.mul_pos hq (Nat.pow_pos (by decide))

theorem nearestDouble_close (i : Int) :
    2 * (nearestDouble i - i).natAbs ≤ 2 ^ (Nat.log2 i.natAbs - 52) ∧
    (0 < i → 0 < nearestDouble i) ∧ (i < 0 → nearestDouble i < 0) := by
  cases i with
  | ofNat n =>
    have ⟨h1, h2⟩ := nearestDoubleNat_close n
    have hp := nearestDoubleNat_pos n
    simp only [nearestDouble, Int.ofNat_eq_natCast, Int.natAbs_natCast]
    omega
  | negSucc n =>
    have ⟨h1, h2⟩ := nearestDoubleNat_close (n + 1)
    have hp := nearestDoubleNat_pos (n + 1) (by omega)
    show 2 * _ ≤ 2 ^ (Nat.log2 (n + 1) - 52) ∧ _
    simp only [nearestDouble, Int.ofNat_eq_natCast, Int.negSucc_eq]
    omega

theorem anyFieldAux_single {v : Json} {oid : Option Json} (h : anyFieldAux [v] none = some oid) :
    goDecode v = some (oid.getD .null) := by
  unfold anyFieldAux at h
  split at h
  · cases h
  · cases h; assumption
  · cases h; assumption

/-- what Go decodes an id into is what the spec wants echoed for it -/
theorem idTarget_goDecode {v w : Json} (h : goDecode v = some w) : idOk (idTarget v) w = true := by
  cases v with
  | str s => cases h; exact beq_self_eq_true s
  | int i =>
    simp only [goDecode, Option.ite_none_right_eq_some, Option.some.injEq] at h
    obtain ⟨_, rfl⟩ := h
    simp [idTarget, idOk, idEq, nearestDouble_eq]
  | dec m e =>
    simp only [goDecode, Option.ite_none_right_eq_some, Option.some.injEq] at h
    obtain ⟨_, rfl⟩ := h
    simp [idTarget, idOk, idEq]
  | _ => rfl

/-- the id a server echoes (`null` for a nil id) satisfies the demand the request's id member(s) create -/
theorem id_ok (o : Obj) (oid : Option Json) (h : anyField o t!"id" = some oid) :
    idOk (idDemand (some (.obj o))) (oid.getD .null) = true := by
  rw [anyField, fieldVals_loose o _ (by decide)] at h
  simp only [idDemand]
  split
  · next hm => rw [hm] at h; cases h; rfl
  · next k v hm =>
    rw [hm] at h
    split
    · exact idTarget_goDecode (anyFieldAux_single h)
    · rfl
  · rfl

/-- the method the spec reads off the request is the one the server dispatches on — or the spec reads none -/
theorem method_ok (o : Obj) (m : Text) (h : strField o t!"method" = some m) :
    requestMethod (some (.obj o)) = m ∨ requestMethod (some (.obj o)) = [] := by
  rw [strField, fieldVals_loose o _ (by decide)] at h
  simp only [requestMethod]
  split
  · next k s hm =>
    rw [hm] at h
    cases h
    split
    · exact .inl rfl
    · exact .inr rfl
  · exact .inr rfl

theorem wfResult_nil {m : Text} {r : Json} (h : wfResult m r = true) : wfResult [] r = true := by
  cases r with
  | obj o =>
    -- for no method the spec asks for an object with a well-formed `_meta`, and that is the first conjunct for every method
    simp only [wfResult, Bool.and_eq_true] at h
    exact (Bool.and_true _).trans h.1
  | _ => exact h

theorem wfMsg_okMsg (req : Option Json) (id : Option Json) (r : Json) :
    wfMsg req (okMsg id r) = (idOk (idDemand req) (id.getD .null) && wfResult (requestMethod req) r) := rfl

theorem wfMsg_errMsg (req : Option Json) (id : Option Json) (code : Int) (msg : Text) :
    wfMsg req (errMsg id code msg) =
      (idOk (idDemand req) (id.getD .null) || (isNull (id.getD .null) && (code == -32700 || code == -32600))) := rfl

theorem dispatch_result_wf (reg : Registry) (hc : reg.Conforming) (req : Req) (r : Json)
    (hd : dispatch reg req = .ok (.result r)) : wfResult req.method r = true := by
  revert hd
  apply dispatch_cases reg req (fun out => out = .ok (.result r) → wfResult req.method r = true) <;> intro h hr <;> (try rw [h])
  case init =>
    rcases handleInitialize_cases reg req with ⟨_, e⟩ | ⟨_, v, _, _, e⟩ <;> cases e.symm.trans hr
    exact wf_initResult reg v
  case ping | templatesList => cases hr; rfl
  case toolsList => cases hr; exact wf_listTools _ hc.listed
  case toolsCall => exact handleCallTool_wf (Outcome.ok.inj hr)
  case resourcesList => cases hr; exact wf_listResources _
  case resourcesRead => exact handleReadResource_wf (Outcome.ok.inj hr)
  case promptsList => cases hr; exact wf_listPrompts _
  case promptsGet => exact handleGetPrompt_wf hc (Outcome.ok.inj hr)
  case subscribe | unsubscribe | complete =>
    -- an error, or (subscribe, unsubscribe) an object of two strings, for which the spec prescribes no shape
    simp only [handleSubscribe, handleUnsubscribe, handleCompletion] at hr
    repeat' split at hr
    all_goals cases hr
    all_goals rfl
  case unknown => cases hr

theorem dispatchStdio_result_wf (reg : Registry) (hc : reg.Conforming) (req : Req) (r : Json)
    (hd : dispatchStdio reg req = .ok (.result r)) : wfResult req.method r = true := by
  rw [dispatchStdio_eq] at hd
  split at hd
  · exact dispatch_result_wf reg hc req r hd
  · cases hd

/-! ## every emitted message is well-formed -/

theorem decodeRequest_spec (j : Json) (req : Req) (h : decodeRequest j = some req) :
    idOk (idDemand (some j)) (req.id.getD .null) = true ∧
    (requestMethod (some j) = req.method ∨ requestMethod (some j) = []) := by
  cases j with
  | null => cases h; exact ⟨rfl, .inr rfl⟩
  | obj o =>
    simp only [decodeRequest, asMapTarget] at h
    split at h
    · cases h
      exact ⟨id_ok o _ ‹_›, method_ok o _ ‹_›⟩
    · cases h
  | _ => cases h

theorem wfMsg_ansMsg (j : Json) (req : Req) (a : Ans) (hreq : decodeRequest j = some req)
    (hres : ∀ r, a = .result r → wfResult req.method r = true) :
    ∀ m ∈ (ansMsg req.id a).toList, wfMsg (some j) m = true := by
  obtain ⟨hid, hmeth⟩ := decodeRequest_spec j req hreq
  intro msg hmsg
  cases a with
  | result r =>
    cases List.mem_singleton.mp hmsg
    have hr : wfResult (requestMethod (some j)) r = true := by
      rcases hmeth with h | h <;> rw [h]
      · exact hres r rfl
      · exact wfResult_nil (hres r rfl)
    rw [wfMsg_okMsg, hid, hr]
    rfl
  | error _ _ | unencodable _ =>
    cases List.mem_singleton.mp hmsg
    rw [wfMsg_errMsg, hid]
    rfl

theorem wfMsg_unidentified (req : Option Json) (code : Int) (msg : Text) (h : code = -32700 ∨ code = -32600) :
    wfMsg req (errMsg none code msg) = true := by
  rw [wfMsg_errMsg]
  rcases h with h | h <;> subst h <;> simp [isNull]

/-- What a server writes in reaction to a body: nothing; an error for a request it could not identify (id `null`, Parse
    error / Invalid Request); or the message the answer of a dispatcher to the typed request becomes. -/
inductive Emitted (reg : Registry) : Body → List Json → Prop
  | nothing (b) : Emitted reg b []
  | unidentified (b code msg) : code = codeParse ∨ code = codeInvalidRequest → Emitted reg b [errMsg none code msg]
  | answer (j req a) : decodeRequest j = some req → dispatch reg req = .ok a ∨ dispatchStdio reg req = .ok a →
      Emitted reg (.json j) (ansMsg req.id a).toList

/-- the reaction to the body `b` is a response (not a panic) whose messages are `Emitted` -/
structure Reaction.Emits (reg : Registry) (b : Body) (x : Reaction) : Prop where
  ne_panic : x ≠ .panic
  emitted : Emitted reg b x.messages

theorem Reaction.Emits.wf {reg : Registry} (hc : reg.Conforming) {b : Body} {x : Reaction} (h : x.Emits reg b) :
    ∀ m ∈ x.messages, wfMsg b.json? m = true := by
  have h := h.emitted
  generalize x.messages = ms at h
  cases h with
  | nothing => nofun
  | unidentified b code msg hcode =>
    intro m hm
    cases List.mem_singleton.mp hm
    exact wfMsg_unidentified _ _ _ hcode
  | answer j req a hreq hd =>
    refine wfMsg_ansMsg j req a hreq fun r hr => ?_
    subst hr
    exact hd.elim (dispatch_result_wf reg hc req r) (dispatchStdio_result_wf reg hc req r)

theorem serveStdio_emits (reg : Registry) (b : Body) : (serveStdio reg b).Emits reg b := by
  unfold serveStdio
  split
  · exact ⟨nofun, .unidentified _ _ _ (.inl rfl)⟩
  · split
    · exact ⟨nofun, .unidentified _ _ _ (.inr rfl)⟩
    · split
      · exact ⟨nofun, .unidentified _ _ _ (.inl rfl)⟩
      · next req hreq =>
        obtain ⟨a, ha⟩ := dispatchStdio_ok reg req
        rw [ha]
        exact ⟨nofun, .answer _ req a hreq (.inr ha)⟩
    · exact ⟨nofun, .nothing _⟩

theorem serveSSEMessage_emits (reg : Registry) (b : Body) : (serveSSEMessage reg b).Emits reg b := by
  unfold serveSSEMessage
  split
  · exact ⟨nofun, .unidentified _ _ _ (.inl rfl)⟩
  split
  · exact ⟨nofun, .unidentified _ _ _ (.inl rfl)⟩
  split
  · -- id and method: a request
    split
    · exact ⟨nofun, .nothing _⟩
    next req hreq =>
    obtain ⟨a, ha⟩ := dispatch_ok reg req
    rw [ha]
    exact ⟨nofun, .answer _ req a hreq (.inl ha)⟩
  split
  · -- a method, no id: a notification
    exact ⟨nofun, .nothing _⟩
  split
  · -- an id, no method: a response
    exact ⟨nofun, .nothing _⟩
  · -- neither
    exact ⟨nofun, .unidentified _ _ _ (.inr rfl)⟩

theorem serveSSE_emits (reg : Registry) (i : SseIn) : (serveSSE reg i).Emits reg i.body := by
  unfold serveSSE
  split
  · exact ⟨nofun, .nothing _⟩
  · split <;> exact ⟨nofun, .nothing _⟩
  · split
    · exact ⟨nofun, .nothing _⟩
    · split
      · exact ⟨nofun, .nothing _⟩
      · exact ⟨nofun, .nothing _⟩
      · exact serveSSEMessage_emits reg i.body

/-- One exchange with the Streamable server, by what becomes of the session table. -/
inductive HttpStep (c : SCfg) (reg : Registry) (st : St) (i : HttpIn) : St × Reaction → Prop
  /-- refused before any session is resolved: wrong path, unknown verb, unparsable body, unreadable envelope, session refusal -/
  | refused (s : Nat) : 400 ≤ s → HttpStep c reg st i (st, .http s)
  /-- GET / DELETE: a step of the session machine, answered with its status -/
  | session (op : Op) : HttpStep c reg st i ((step c.sess st op).1, .http (step c.sess st op).2.status)
  /-- the session is resolved, then the typed decode fails or there is neither id nor method -/
  | undecoded (b st1 sess) : resolve c.sess st b i.ref = .ok (st1, sess) → HttpStep c reg st i (st1, .http 400)
  /-- a request: the answer of the table goes out with 200 -/
  | request (b st1 sess j req a) : resolve c.sess st b i.ref = .ok (st1, sess) → i.body = .json j → decodeRequest j = some req →
      dispatch reg req = .ok a →
      HttpStep c reg st i ((postBody c.sess st1 (requestKind req.method a) sess).1, .http 200 (ansMsg req.id a))
  /-- a notification or a response: `postBody` decides state and status -/
  | other (b st1 sess k) : resolve c.sess st b i.ref = .ok (st1, sess) →
      HttpStep c reg st i ((postBody c.sess st1 k sess).1, .http (postBody c.sess st1 k sess).2.status)

theorem resolve_error {c : Cfg} {st : St} {isInit : Bool} {ref : Ref} {s : Nat} (h : resolve c st isInit ref = .error s) :
    400 ≤ s := by
  unfold resolve at h
  repeat' split at h
  all_goals cases h
  all_goals decide

theorem answeredWithError_http {s : Nat} : (Reaction.http s).answeredWithError = true ↔ 400 ≤ s := by
  simp [Reaction.http, Reaction.answeredWithError]

theorem serveStreamable_step (c : SCfg) (reg : Registry) (st : St) (i : HttpIn) :
    HttpStep c reg st i (serveStreamable c reg st i) := by
  unfold serveStreamable
  split
  · exact .refused 404 (by decide)
  split
  · split
    · exact .refused 400 (by decide)
    next j hj =>
    unfold servePost
    split
    · exact .refused 400 (by decide)
    split
    · next s hs => exact .refused s (resolve_error hs)
    next st1 sess hres =>
    split
    · split
      · exact .undecoded _ _ _ hres
      next req hreq =>
      obtain ⟨a, ha⟩ := dispatch_ok reg req
      rw [ha]
      exact .request _ _ _ j req a hres hj hreq ha
    split
    · split
      · exact .undecoded _ _ _ hres
      · exact .other _ _ _ _ hres
    split
    · split
      · exact .undecoded _ _ _ hres
      · exact .other _ _ _ _ hres
    · exact .undecoded _ _ _ hres
  · exact .session (.get i.ref)
  · exact .session (.delete i.ref)
  · exact .refused 405 (by decide)

theorem serveStreamable_emits (c : SCfg) (reg : Registry) (st : St) (i : HttpIn) :
    (serveStreamable c reg st i).2.Emits reg i.body := by
  have h := serveStreamable_step c reg st i
  generalize serveStreamable c reg st i = x at h
  cases h with
  | request b st1 sess j req a _ hj hreq ha =>
    refine ⟨nofun, ?_⟩
    show Emitted reg i.body ((ansMsg req.id a).toList ++ [])
    rw [hj, List.append_nil]
    exact .answer j req a hreq (.inl ha)
  | _ => exact ⟨nofun, .nothing _⟩

theorem serveWire_eq (c : SCfg) (reg : Registry) (st : Mcp.Session.St) (w : HttpWire) :
    ∃ acc, serveWire c reg st w = serveStreamable c reg st ⟨w.verb, w.pathOk, w.ref, acc, w.body⟩ := by
  obtain ⟨as, ha⟩ := parseAccept_ok w.accept
  exact ⟨containsContentType as typeEventStream, by simp only [serveWire, ha]⟩

theorem serveWire_ne_panic (c : SCfg) (reg : Registry) (st : Mcp.Session.St) (w : HttpWire) :
    (serveWire c reg st w).2 ≠ .panic := by
  obtain ⟨acc, h⟩ := serveWire_eq c reg st w
  rw [h]
  exact (serveStreamable_emits c reg st _).ne_panic

/-! ## fault classes and their codes -/

theorem handleCallTool_bad (reg : Registry) (req : Req) (h : badParams reg t!"tools/call" req.params = true) :
    (handleCallTool reg req).code? = some codeInvalidParams := by
  unfold handleCallTool
  split
  · rfl
  next p hp =>
  split
  · rfl
  next m hm =>
  split
  · rfl
  next n hn =>
  split
  · rfl
  next he =>
  -- past the name the parameters are bad only if the tool exists and `arguments` is no object
  simp [badParams, hp, hm, hn, he] at h
  obtain ⟨tool, ht⟩ := Option.isSome_iff_exists.mp h.1
  obtain ⟨ha, _⟩ | ⟨_, msg, hta⟩ := toolArguments_cases (m := m) rfl
  · cases ha.symm.trans h.2
  · rw [ht, hta]
    rfl

theorem handleGetPrompt_bad (reg : Registry) (req : Req) (h : badParams reg t!"prompts/get" req.params = true) :
    (handleGetPrompt reg req).code? = some codeInvalidParams := by
  unfold badParams at h
  cases hm : req.params.bind asObj? with
  | none => simp [handleGetPrompt, hm, Ans.code?]
  | some m =>
    simp [hm] at h
    simp [handleGetPrompt, hm, h, Ans.code?]

theorem handleReadResource_bad (reg : Registry) (req : Req) (h : badParams reg t!"resources/read" req.params = true) :
    (handleReadResource reg req).code? = some codeInvalidParams := by
  unfold badParams at h
  cases hm : req.params.bind asObj? with
  | none => simp [handleReadResource, hm, Ans.code?]
  | some m =>
    simp [hm] at h
    simp [handleReadResource, hm, h, Ans.code?]

theorem handleInitialize_bad (reg : Registry) (req : Req) (h : badParams reg t!"initialize" req.params = true) :
    (handleInitialize reg req).ans?.bind Ans.code? = some codeInvalidParams := by
  rcases handleInitialize_cases reg req with ⟨_, e⟩ | ⟨m, v, hp, hl, _⟩
  · rw [e]; rfl
  · simp [badParams, hp, asObj?, lookupStr?, hl] at h

theorem badParams_method {reg : Registry} {m : Text} {p : Option Json} (h : badParams reg m p = true) :
    m = t!"initialize" ∨ m = t!"tools/call" ∨ m = t!"prompts/get" ∨ m = t!"resources/read" := by
  refine Decidable.by_contra fun hn => ?_
  simp only [not_or] at hn
  unfold badParams at h
  split at h <;> simp [hn] at h

/-! ## a well-formed envelope in an accepted session -/

theorem resolve_ok (c : SCfg) (st : St) (ref : Ref) (m : Text) (hs : sessionOk c st ref m) :
    ∃ st1 sess, resolve c.sess st (m == t!"initialize") ref = .ok (st1, sess) := by
  unfold resolve
  cases hm : c.sess.mode with
  | stateless => simp
  | sessionsOff => simp
  | stateful =>
    rcases hs hm with ⟨s, rfl, hl⟩ | ⟨rfl, rfl⟩
    · simp [hl]
    · simp

/-- All three servers answer the body `j` as the request `req`: the HTTP servers with the answer `a` of the table, stdio
    with the answer `a'` of its switch, and nothing else. -/
structure Served (reg : Registry) (c : SCfg) (st : St) (ref : Ref) (acc : Bool) (j : Json) (req : Req) (a a' : Ans) : Prop where
  table : dispatch reg req = .ok a
  switch : dispatchStdio reg req = .ok a'
  streamable : (serveStreamable c reg st (postOf ref acc j)).2 = .http 200 (ansMsg req.id a)
  sse : serveSSE reg (ssePostOf j) = .resp ⟨some 202, none, (ansMsg req.id a).toList⟩
  stdio : serveStdio reg (.json j) = .resp ⟨none, none, (ansMsg req.id a').toList⟩

/-- A well-formed envelope (numbers a float64 can hold, non-empty method, accepted session): the three decoders bind the
    same request — the id as Go decodes it — and each server answers it. -/
theorem serve_wfEnvelope (reg : Registry) (o mm : Obj) (hwf : wfEnvelope (.obj o) = true) (hrep : goDecodeFields o = some mm)
    (m : Text) (hm : lookup o t!"method" = some (.str m)) (hne : m ≠ [])
    (c : SCfg) (st : St) (ref : Ref) (acc : Bool) (hs : sessionOk c st ref m) :
    ∃ id id' a a', lookup o t!"id" = some id ∧ goDecode id = some id' ∧
      Served reg c st ref acc (.obj o) ⟨some id', m, paramsOf mm⟩ a a' := by
  obtain ⟨id, id', m', hid, hid', hm', hreq, hbase, hcls⟩ := decode_wfEnvelope o mm hwf hrep
  cases Json.str.inj (Option.some.inj (hm.symm.trans hm'))
  have hne' : m.isEmpty = false := by cases m <;> simp_all
  obtain ⟨st1, sess, hres⟩ := resolve_ok c st ref m hs
  obtain ⟨a, ha⟩ := dispatch_ok reg ⟨some id', m, paramsOf mm⟩
  obtain ⟨a', ha'⟩ := dispatchStdio_ok reg ⟨some id', m, paramsOf mm⟩
  refine ⟨id, id', a, a', hid, hid', ha, ha', ?_, ?_, ?_⟩
  · simp only [postOf, serveStreamable, servePost, hbase, hreq, hne', ha]
    simp [hres]
  · simp only [ssePostOf, serveSSE, serveSSEMessage, hbase, hreq, hne', ha]
    simp
  · simp [serveStdio, hcls, hreq, ha']

/-! ## concrete instances (non-vacuity examples and counterexamples of the property files) -/

def objectSchema : Json := .obj [(t!"type", .str t!"object")]

/-- a tool that returns its arguments as structured content -/
def demoEcho : ToolEntry :=
  ⟨⟨t!"echo", t!"echoes", some objectSchema, none, none⟩,
   fun a => .result ⟨[], some [.text t!"ok" none], some (match a with | none => .null | some o => .obj o), false⟩⟩

def demoBoom : ToolEntry := ⟨⟨t!"boom", [], some objectSchema, none, none⟩, fun _ => .goErr t!"kaboom"⟩
def demoChan : ToolEntry := ⟨⟨t!"chan", [], some objectSchema, none, none⟩, fun _ => .unencodable t!"json: unsupported type: chan int"⟩
def demoNil : ToolEntry := ⟨⟨t!"nilcontent", [], some objectSchema, none, none⟩, fun _ => .result ⟨[], none, none, false⟩⟩
def demoEmbedded : ToolEntry :=
  ⟨⟨t!"embedded", [], some objectSchema, none, none⟩,
   fun _ => .result ⟨[], some [.embedded (.text t!"verif://e" [] t!"t") none], none, false⟩⟩

def demoPrompt : PromptEntry :=
  ⟨t!"p", t!"a prompt", [⟨t!"a", [], true⟩], fun _ => .result ⟨[], t!"d", some [⟨t!"user", some (.text t!"q" none)⟩]⟩⟩

def demoResource : ResEntry :=
  ⟨t!"r", t!"verif://r", [], t!"text/plain", 0, fun _ => .contents (some [.text t!"verif://r" t!"text/plain" t!"hello"])⟩

def demoReg : Registry :=
  { name := t!"srv", version := t!"1", tools := [demoEcho, demoBoom, demoChan, demoNil, demoEmbedded], prompts := [demoPrompt],
    resources := [demoResource] }

/-- a request envelope -/
def demoEnv (id : Json) (method : Text) (params : Option Json) : Json :=
  .obj ([(t!"jsonrpc", .str t!"2.0"), (t!"id", id), (t!"method", .str method)]
    ++ (match params with | some p => [(t!"params", p)] | none => []))

def demoCfg (mode : Mcp.Session.Mode) (postSSE : Bool := false) : SCfg := ⟨⟨mode, true, true⟩, postSSE, true⟩

/-- one live session (id 0) that completed its handshake -/
def demoSt : Mcp.Session.St := { issued := 1, live := [0], lstate := [(0, true), (0, false)], streams := [] }

def callParams (tool : Text) : Json := .obj [(t!"name", .str tool), (t!"arguments", .obj [(t!"x", .int 1)])]

end Mcp.Rpc

