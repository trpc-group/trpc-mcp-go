/-
  The trace theory behind "lock discipline ⇒ no data race" (`Mcp.Lockset`), used by C20 directly and by C12 through
  the embedding of the registry's reader/writer-lock traces (`Mcp.Registry.Lock`, no atomics, no `go`).

  The one idea: a mutex is handed over.  If `t` holds `l` at event `i` and another thread `u` holds it at a later
  event `j`, one of the two exclusively, then `t` released `l` at some `k ≥ i` and `u` acquired it at some `m` with
  `k < m < j`, and the Go memory model orders that release before that acquire (`handover`).
-/
import Mcp.Model.Lockset
namespace Mcp.Lockset

theorem stateAt_succ (l : Nat) (tr : List Ev) (i : Nat) :
    stateAt l tr (i + 1) = match tr[i]? with
      | some e => stepL l (stateAt l tr i) e
      | none => stateAt l tr i := by
  unfold stateAt
  rw [List.take_add_one]
  cases h : tr[i]? <;> simp [List.foldl_append]

/-! ### one step of one mutex -/

/-- An exclusive holder excludes shared holders. -/
def LInv (s : LS) : Prop := ∀ t, s.writer = some t → s.readers = []

/-- What an event the mutex allows does to its state: nothing, or one of the four transitions, each with what `okL`
    asks of the state before. -/
inductive Step (l : Nat) (s : LS) : Ev → LS → Prop
  | same (e) : Step l s e s
  | acqW (t) : s.writer = none → s.readers = [] → Step l s (.acqW t l) { s with writer := some t }
  | relW (t) : s.writer = some t → Step l s (.relW t l) { s with writer := none }
  | acqR (t) : s.writer = none → Step l s (.acqR t l) { s with readers := t :: s.readers }
  | relR (t) : t ∈ s.readers → Step l s (.relR t l) { s with readers := s.readers.erase t }

section
variable {l t : Nat} {s s' : LS} {e : Ev}

/-- The shape of `stepL` on a lock event: a transition if the event names this mutex, nothing otherwise. -/
theorem Step.ite {c : Prop} [Decidable c] (h : c → Step l s e s') : Step l s e (if c then s' else s) := by
  split
  next hc => exact h hc
  next => exact .same e

theorem step_of_ok (ok : okL l s e) : Step l s e (stepL l s e) := by
  cases e with
  | acqW t l' => exact .ite fun hl => by subst hl; exact .acqW t (ok rfl).1 (ok rfl).2
  | relW t l' => exact .ite fun hl => by subst hl; exact .relW t (ok rfl)
  | acqR t l' => exact .ite fun hl => by subst hl; exact .acqR t (ok rfl)
  | relR t l' => exact .ite fun hl => by subst hl; exact .relR t (ok rfl)
  | _ => exact .same _

theorem step_linv (st : Step l s e s') (h : LInv s) : LInv s' := by
  intro t hw
  cases st with
  | same => exact h t hw
  | acqW _ _ hr => exact hr
  | relW => cases hw
  | acqR _ hn => rw [hn] at hw; cases hw
  | relR u => rw [h t hw]; rfl

theorem writer_lost (st : Step l s e s') (hw : s.writer = some t) (h : s'.writer ≠ some t) : e = .relW t l := by
  cases st with
  | acqW _ hn => rw [hn] at hw; cases hw
  | relW u hu => rw [hu] at hw; cases hw; rfl
  | _ => exact absurd hw h

theorem writer_gained (st : Step l s e s') (hw : s.writer ≠ some t) (h : s'.writer = some t) :
    e = .acqW t l ∧ s.readers = [] := by
  cases st with
  | acqW u _ hr => cases h; exact ⟨rfl, hr⟩
  | relW => cases h
  | _ => exact absurd h hw

theorem reader_lost (st : Step l s e s') (hr : t ∈ s.readers) (h : t ∉ s'.readers) : e = .relR t l := by
  cases st with
  | acqR u => exact absurd (List.mem_cons_of_mem u hr) h
  | relR u =>
    by_cases ht : t = u
    · rw [ht]
    · exact absurd ((List.mem_erase_of_ne ht).2 hr) h
  | _ => exact absurd hr h

theorem holder_gained (st : Step l s e s') (hn : ¬ holdsAny s t) (h : holdsAny s' t) :
    e = .acqW t l ∨ e = .acqR t l := by
  cases st with
  | same => exact absurd h hn
  | acqW u =>
    rcases h with h | h
    · cases h; exact .inl rfl
    · exact absurd (.inr h) hn
  | relW u => exact absurd (.inr (h.resolve_left nofun)) hn
  | acqR u =>
    rcases h.imp_right List.mem_cons.1 with h | rfl | h
    · exact absurd (.inl h) hn
    · exact .inr rfl
    · exact absurd (.inr h) hn
  | relR u => exact absurd (h.imp_right List.mem_of_mem_erase) hn

end

/-! ### along a trace -/

theorem linv_at {tr : List Ev} (hv : Valid tr) (l : Nat) : ∀ i, LInv (stateAt l tr i)
  | 0 => by intro t h; cases h
  | i + 1 => by
    rw [stateAt_succ]
    cases he : tr[i]? with
    | none => exact linv_at hv l i
    | some e => exact step_linv (step_of_ok (hv l i e he)) (linv_at hv l i)

/-- A property of the state of mutex `l` that holds before event `i` and no longer before a later event `j` is lost at
    some event in between. -/
theorem flips (tr : List Ev) (l : Nat) (P : LS → Prop) {i j : Nat} (hij : i ≤ j) (hi : P (stateAt l tr i))
    (hj : ¬ P (stateAt l tr j)) :
    ∃ k e, i ≤ k ∧ k < j ∧ tr[k]? = some e ∧ P (stateAt l tr k) ∧ ¬ P (stepL l (stateAt l tr k) e) := by
  induction hij with
  | refl => exact absurd hi hj
  | @step j hij ih =>
    by_cases hp : P (stateAt l tr j)
    · rw [stateAt_succ] at hj
      cases he : tr[j]? with
      | none => rw [he] at hj; exact absurd hp hj
      | some e => rw [he] at hj; exact ⟨j, e, hij, Nat.lt_succ_self j, he, hp, hj⟩
    · obtain ⟨k, e, hik, hkj, h⟩ := ih hp
      exact ⟨k, e, hik, Nat.lt_succ_of_lt hkj, h⟩

theorem handover {tr : List Ev} (hv : Valid tr) {l t u i j : Nat} (hij : i ≤ j) (htu : t ≠ u)
    (hi : holdsAny (stateAt l tr i) t) (hj : holdsAny (stateAt l tr j) u)
    (hx : holdsW (stateAt l tr i) t ∨ holdsW (stateAt l tr j) u) :
    ∃ k m a b, i ≤ k ∧ k < m ∧ m < j ∧ tr[k]? = some a ∧ tr[m]? = some b ∧
      (a = .relW t l ∨ a = .relR t l) ∧ (b = .acqW u l ∨ b = .acqR u l) ∧ syncs a b := by
  have st {k e} (he : tr[k]? = some e) := step_of_ok (hv l k e he)
  by_cases hWi : holdsW (stateAt l tr i) t
  · -- `t` holds `l` exclusively at `i`: it unlocks at some `k`, leaving the mutex free; `u` gets it after that
    have hnw : ¬ (stateAt l tr j).writer = some t := by
      rcases hj with h | h
      · rw [h]; exact fun e => htu (Option.some.inj e).symm
      · intro e; rw [linv_at hv l _ _ e] at h; cases h
    obtain ⟨k, e, hik, hkj, hk, hwk, hnk⟩ := flips tr l (·.writer = some t) hij hWi hnw
    cases writer_lost (st hk) hwk hnk
    have hnone : ¬ holdsAny (stateAt l tr (k + 1)) u := by
      rw [stateAt_succ, hk]; simp [stepL, holdsAny, linv_at hv l k t hwk]
    obtain ⟨m, b, hkm, hmj, hm, hnm, hhm⟩ := flips tr l (¬ holdsAny · u) hkj hnone (not_not_intro hj)
    have hb := holder_gained (st hm) hnm (Classical.not_not.1 hhm)
    refine ⟨k, m, _, b, hik, hkm, hmj, hk, hm, .inl rfl, hb, ?_⟩
    rcases hb with rfl | rfl <;> rfl
  · -- `t` holds `l` shared at `i`, so `u` holds it exclusively at `j`: `u` locked at some `m`, when no shared
    -- holder was left, so `t` had r-unlocked before
    have hri : t ∈ (stateAt l tr i).readers := hi.resolve_left hWi
    have hWj : (stateAt l tr j).writer = some u := hx.resolve_left hWi
    have hnw : ¬ (stateAt l tr i).writer = some u := by
      intro e; rw [linv_at hv l _ _ e] at hri; cases hri
    obtain ⟨m, b, him, hmj, hm, hnm, hwm⟩ := flips tr l (¬ ·.writer = some u) hij hnw (not_not_intro hWj)
    obtain ⟨rfl, hrm⟩ := writer_gained (st hm) hnm (Classical.not_not.1 hwm)
    have hnr : t ∉ (stateAt l tr m).readers := by rw [hrm]; exact List.not_mem_nil
    obtain ⟨k, a, hik, hkm, hk, hrk, hnk⟩ := flips tr l (t ∈ ·.readers) him hri hnr
    cases reader_lost (st hk) hrk hnk
    exact ⟨k, m, _, _, hik, hkm, hmj, hk, hm, .inr rfl, .inl rfl, rfl⟩

/-- **Lock discipline ⇒ no race**, for any location `x` and any mutex `l`. -/
theorem lockset_sound (tr : List Ev) (x l : Nat) (hv : Valid tr) (hd : Disciplined tr x l) : ¬ Race tr x := by
  rintro ⟨i, j, a, b, hij, ha, hb, hax, hbx, hw, _, hne, hnhb⟩
  obtain ⟨hwa, haa⟩ := hd i a ha hax
  obtain ⟨hwb, hab⟩ := hd j b hb hbx
  obtain ⟨k, m, r, q, hk, hkm, hmj, hr, hq, hr', hq', hs⟩ :=
    handover hv (Nat.le_of_lt hij) hne haa hab (hw.imp hwa hwb)
  -- the access at `i` is not the release at `k`
  have hki : i < k := by
    refine Nat.lt_of_le_of_ne hk fun e => ?_
    subst e
    cases Option.some.inj (ha.symm.trans hr)
    rcases hr' with h | h <;> rw [h] at hax <;> cases hax
  have hrt : a.tid = r.tid := by rcases hr' with h | h <;> rw [h] <;> rfl
  have hqt : q.tid = b.tid := by rcases hq' with h | h <;> rw [h] <;> rfl
  exact hnhb (.trans (.po hki ha hr hrt) (.trans (.sync hkm hr hq hs) (.po hmj hq hb hqt)))

/-! ### concrete traces: the hypotheses and `Race` by evaluation -/

def Ev.lock? : Ev → Option Nat
  | .acqW _ l | .relW _ l | .acqR _ l | .relR _ l => some l
  | _ => none

instance (l : Nat) (s : LS) (e : Ev) : Decidable (okL l s e) := by cases e <;> unfold okL <;> infer_instance
instance (s : LS) (t : Nat) : Decidable (holdsW s t) := by unfold holdsW; infer_instance
instance (s : LS) (t : Nat) : Decidable (holdsAny s t) := by unfold holdsAny; infer_instance
instance (a b : Ev) : Decidable (syncs a b) := by cases a <;> cases b <;> unfold syncs <;> infer_instance

theorem forall_getElem? {α} (l : List α) (P : Nat → α → Prop) :
    (∀ i a, l[i]? = some a → P i a) ↔ ∀ i (h : i < l.length), P i l[i] :=
  ⟨fun h i hi => h i _ (List.getElem?_eq_getElem hi), fun h i a ha => by
    obtain ⟨hi, rfl⟩ := List.getElem?_eq_some_iff.1 ha; exact h i hi⟩

/-- An event constrains only the mutex it operates on. -/
theorem valid_iff (tr : List Ev) :
    Valid tr ↔ ∀ i (h : i < tr.length), ∀ l, tr[i].lock? = some l → okL l (stateAt l tr i) tr[i] := by
  rw [← forall_getElem? tr fun i e => ∀ l, e.lock? = some l → okL l (stateAt l tr i) e]
  constructor
  · intro hv i e he l _; exact hv l i e he
  · intro h l i e he
    by_cases hl : e.lock? = some l
    · exact h i e he l hl
    · cases e with
      | acqW _ l' | relW _ l' | acqR _ l' | relR _ l' => exact fun e => absurd (congrArg some e) hl
      | _ => trivial

theorem disciplined_iff (tr : List Ev) (x l : Nat) :
    Disciplined tr x l ↔ ∀ i (h : i < tr.length), isAccess x tr[i] = true →
      (isWrite x tr[i] = true → holdsW (stateAt l tr i) tr[i].tid) ∧ holdsAny (stateAt l tr i) tr[i].tid :=
  forall_getElem? tr _

/-- Every happens-before path out of `i` starts with a program-order or synchronisation edge out of `i`. -/
theorem hb_first {tr : List Ev} {i j : Nat} (h : HB tr i j) :
    ∃ k a b, i < k ∧ tr[i]? = some a ∧ tr[k]? = some b ∧ (a.tid = b.tid ∨ syncs a b) := by
  induction h with
  | po hij ha hb ht => exact ⟨_, _, _, hij, ha, hb, .inl ht⟩
  | sync hij ha hb hs => exact ⟨_, _, _, hij, ha, hb, .inr hs⟩
  | trans _ _ ih _ => exact ih

theorem hb_lt {tr : List Ev} {i j : Nat} (h : HB tr i j) : i < j := by
  induction h with
  | po h _ _ _ => exact h
  | sync h _ _ _ => exact h
  | trans _ _ ih1 ih2 => exact Nat.lt_trans ih1 ih2

theorem not_hb_of {tr : List Ev} {i : Nat} (hi : i < tr.length)
    (h : ∀ k (hk : k < tr.length), i < k → ¬ (tr[i].tid = tr[k].tid ∨ syncs tr[i] tr[k])) (j : Nat) : ¬ HB tr i j := by
  intro hb
  obtain ⟨k, a, b, hik, ha, hb, he⟩ := hb_first hb
  obtain ⟨_, rfl⟩ := List.getElem?_eq_some_iff.1 ha
  obtain ⟨hk, rfl⟩ := List.getElem?_eq_some_iff.1 hb
  exact h k hk hik he

end Mcp.Lockset
