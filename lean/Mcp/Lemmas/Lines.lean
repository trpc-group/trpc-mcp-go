/-
  Lemmas about the line functions of `Mcp.Model.Escape`: `splitOn` / `joinLF` (Go `strings.Split` / `strings.Join`),
  `trimSuffixLF`, `replaceLF` against `dataLines`, `trimLeft` / `trimSpace`.
-/
import Mcp.Model.Escape
namespace Mcp.Escape
open Mcp.Str

theorem splitOn_ne_nil (sep : Nat) (s : Text) : splitOn sep s ≠ [] := by
  cases s with
  | nil => simp [splitOn]
  | cons c s =>
    simp only [splitOn]
    split
    · simp
    · split <;> simp

theorem splitOn_cons (sep c : Nat) (s : Text) : ∃ l ls, splitOn sep s = l :: ls ∧
    splitOn sep (c :: s) = if c = sep then [] :: l :: ls else (c :: l) :: ls := by
  obtain ⟨l, ls, h⟩ := List.exists_cons_of_ne_nil (splitOn_ne_nil sep s)
  exact ⟨l, ls, h, by simp only [splitOn, h]⟩

theorem splitOn_of_not_mem (sep : Nat) (s : Text) (h : sep ∉ s) : splitOn sep s = [s] := by
  induction s with
  | nil => rfl
  | cons c s ih =>
    rw [List.mem_cons, not_or] at h
    simp [splitOn, Ne.symm h.1, ih h.2]

theorem splitOn_append_sep (sep : Nat) (x y : Text) :
    splitOn sep (x ++ sep :: y) = splitOn sep x ++ splitOn sep y := by
  induction x with
  | nil => simp [splitOn]
  | cons c x ih =>
    obtain ⟨l, ls, hs, hc⟩ := splitOn_cons sep c x
    obtain ⟨l', ls', hs', hc'⟩ := splitOn_cons sep c (x ++ sep :: y)
    rw [List.cons_append, hc, hc']
    rw [ih, hs, List.cons_append, List.cons.injEq] at hs'
    split <;> simp [hs'.1, hs'.2]

theorem splitOn_pieces (sep : Nat) (s : Text) : ∀ l ∈ splitOn sep s, sep ∉ l ∧ l ⊆ s := by
  induction s with
  | nil => simp [splitOn]
  | cons c s ih =>
    obtain ⟨l, ls, hs, hc⟩ := splitOn_cons sep c s
    rw [hs, List.forall_mem_cons] at ih
    rw [hc]
    have up : ∀ x, sep ∉ x ∧ x ⊆ s → sep ∉ x ∧ x ⊆ c :: s := fun x h => ⟨h.1, List.subset_cons_of_subset c h.2⟩
    split
    · simpa using ⟨up l ih.1, fun x hx => up x (ih.2 x hx)⟩
    · next hne => simpa [Ne.symm hne, ih.1.1, ih.1.2] using fun x hx => up x (ih.2 x hx)

theorem joinLF_cons_head (c : Nat) (l : Text) (ls : List Text) : joinLF ((c :: l) :: ls) = c :: joinLF (l :: ls) := by
  cases ls <;> simp [joinLF]

theorem joinLF_splitOn (s : Text) : joinLF (splitOn 10 s) = s := by
  induction s with
  | nil => rfl
  | cons c s ih =>
    obtain ⟨l, ls, hs, hc⟩ := splitOn_cons 10 c s
    rw [hs] at ih
    rw [hc]
    split
    · next h => simp [joinLF, h, ih]
    · rw [joinLF_cons_head, ih]

theorem trimSuffixLF_eq : ∀ s : Text, trimSuffixLF s = if s.getLast? = some 10 then s.dropLast else s
  | [] => rfl
  | [c] => by simp [trimSuffixLF]
  | c :: d :: s => by
    rw [trimSuffixLF, trimSuffixLF_eq (d :: s), List.getLast?_cons_cons]
    split <;> rfl

theorem trimSuffixLF_subset (s : Text) : trimSuffixLF s ⊆ s := by
  rw [trimSuffixLF_eq]
  split
  · exact s.dropLast_subset
  · exact List.Subset.refl s

theorem trimSuffixLF_of_noLF (data : Text) (hlf : 10 ∉ data) : trimSuffixLF data = data := by
  rw [trimSuffixLF_eq, if_neg fun h => hlf (List.mem_of_getLast? h)]

/-- `ReplaceAll(d, "\n", "\ndata: ")` behind one `data: ` is `d` line by line, each line behind its own `data: ` -/
theorem replaceLF_dataLines (d : Text) :
    t!"data: " ++ replaceLF d ++ [10] = dataLines t!"data: " (splitOn 10 d) := by
  induction d with
  | nil => rfl
  | cons c s ih =>
    obtain ⟨l, ls, hs, hc⟩ := splitOn_cons 10 c s
    rw [hs] at ih
    have ih : replaceLF s ++ [10] = l ++ 10 :: dataLines t!"data: " ls := by simpa [dataLines] using ih
    rw [hc]
    split <;> simp [*, replaceLF, dataLines]

theorem flatten_dataLines (pre : Text) (ls : List Text) :
    (ls.map (fun l => pre ++ l ++ [10])).flatten = dataLines pre ls := by
  induction ls with
  | nil => simp [dataLines]
  | cons l ls ih => simp only [List.map_cons, List.flatten_cons, ih, dataLines]

theorem trimLeft_append (a : Text) (c : Nat) (b : Text) (h : isSpace c = false) :
    trimLeft (a ++ c :: b) = trimLeft a ++ c :: b := by
  induction a with
  | nil => simp [trimLeft, h]
  | cons x a ih =>
    simp only [List.cons_append, trimLeft]
    split
    · exact ih
    · rfl

theorem trimSpace_id {s : Text} {a : Nat} {r : Text} (hfirst : s = a :: r) (ha : isSpace a = false)
    {q : Text} {b : Nat} (hlast : s = q ++ [b]) (hb : isSpace b = false) : trimSpace s = s := by
  have : trimLeft s = s := by rw [hfirst]; simp [trimLeft, ha]
  rw [trimSpace, this, hlast]
  simp [trimLeft, hb]

theorem clientDataLines_append (a b : Text) :
    clientDataLines (a ++ [10] ++ b) = clientDataLines (a ++ [10]) ++ clientDataLines b := by
  have e1 : a ++ [10] ++ b = a ++ 10 :: b := by simp
  have e2 : a ++ [10] = a ++ 10 :: [] := rfl
  unfold clientDataLines
  rw [e1, e2, splitOn_append_sep, splitOn_append_sep,
    List.dropLast_append_of_ne_nil (splitOn_ne_nil 10 b)]
  simp [splitOn]

end Mcp.Escape
