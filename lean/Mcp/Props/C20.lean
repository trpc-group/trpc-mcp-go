/-
  C20 — Safe for concurrent use: no data races in servers or clients.   (PARTIAL, see below)

  * Part A (abstract semantics, `Mcp.Lockset` traces — any length, any number of threads, locks, locations):
    the three disciplines imply race freedom: one common mutex, readers shared / writers exclusive
    (`C20_lockset_sound`), all accesses atomic (`C20_atomic_sound`), written only by the constructing thread
    before publication (`C20_init_sound`).
  * Part B (the regenerated table `Mcp.Gen.rcSharedFields`, decided by the kernel): the statement in full is
    `AllFieldsDisciplined Mcp.Gen.rcSharedFields`.  It is FALSE of today's tree (`C20_full_statement_refuted`):
    `C20_undisciplined_witness` names exactly the (type, field) pairs without a discipline (what is left of defect
    family D32 after the repairs: seven confirmed by the race detector in the harness, the five stdio fields ordered
    by a `go` statement the lexical table cannot express, see `knownUndisciplined`),
    `C20_all_fields_disciplined_partial` proves the rest.
    `C20_disciplined_no_conflict` ties the per-field predicate to the pairwise one the harness queries.

    The table also has the REGISTRY ENTRIES (`Tool`, `Prompt`, `Resource`, `ResourceTemplate`, the managers' records;
    `Mcp.Entries`): accesses through entry pointers with every mutex held at that point, value copies as reads of all
    fields.  `C20_registry_entries_read_only`: no request path writes an entry; `C20_entry_store_on_request_path_rejected`:
    a lazily filled `Tool.InputSchema` is rejected.
  * Part C (the regenerated table `Mcp.Gen.rcGlobals` of EVERY package-level variable of the library — root package
    and internal/… —, `Mcp.Globals`): state shared by all clients and servers of the process.  `C20_all_globals_disciplined`
    (kernel-decided over the complete table): every variable is immutable-and-never-reassigned, a sync primitive, an
    object safe for concurrent use, only read after initialisation, atomic, or under one package-level mutex at every
    access; an object whose methods may mutate it (`rand.New(…)`, a buffer, any type the extractor cannot see into)
    counts as written by every use.  `C20_unsafe_global_rejected` shows the predicate rejects such a generator used
    from `retry.Execute` (and a plain counter, a half-locked cache, a handed-out table) and accepts the locked variant;
    `C20_globals_config_assumed` names the one variable whose verdict rests on the configuration-setter assumption.

  * Part D (the regenerated table `Mcp.Gen.rcApiArgs` of every map / slice / pointer parameter of the public API,
    `Mcp.ApiArgs`): the caller's memory.  `C20_api_args_not_retained` (kernel-decided over the complete table): the
    library keeps no argument's own object beyond the call — does not store it, hand it to another goroutine, return
    an alias of it, or pass it to code without a summary — except the entries of `reviewedRetention`, reviewed one by
    one (registration keeps the entry, options keep what they are given, net/http's contracts) and matched by API,
    parameter AND verdict, and the one known defect (`knownRetention`).  `C20_api_args_review_exact`: the lists are
    exactly the non-compliant entries.  `C20_send_apis_keep_nothing` names the send APIs that must be in the table and
    compliant; `C20_retained_argument_rejected` shows the predicate rejects a params map queued for a writer goroutine.

  * Part E (the regenerated table `Mcp.Gen.rcSharedLocals`, `Mcp.GoClosures`): local variables a function shares with
    the goroutines it starts itself.  `C20_shared_locals_disciplined`: every variable written by a goroutine literal
    has at most one writing goroutine instance or one common mutex around every write (today NO goroutine literal of
    the library writes a variable of its enclosing function at all: the table is empty, `C20_go_literals_examined` names
    functions whose literals were examined); `C20_unguarded_shared_local_rejected`: an error slice appended to by
    three pipe-closing goroutines is rejected.

  Partial: lock tracking is lexical and per function (no alias analysis, no inter-procedural propagation), memory
  reached through a pointer stored in a field is outside the table, and the Go memory model itself is trusted,
  not modelled instruction by instruction; `HB` here is a subset of Go's happens-before.
-/
import Mcp.Model.Lockset
import Mcp.Model.Globals
import Mcp.Model.ApiArgs
import Mcp.Model.Entries
import Mcp.Model.GoClosures
import Mcp.Gen.FieldLocks
import Mcp.Gen.Globals
import Mcp.Gen.ApiArgs
import Mcp.Gen.GoClosures
import Mcp.Lemmas.Lockset
namespace Mcp.Props.C20
open Mcp.Lockset Mcp.Str

/-! ## Part A — soundness of the disciplines -/

/-- **Lockset soundness, for any location `x` and any mutex `l = L(x)`.** In every trace the mutexes allow — any
    length, any number of threads, other locks, other locations, atomics and goroutine starts in between — if every
    write of `x` happens while its thread holds `l` exclusively and every read while it holds `l` shared or
    exclusively, then any two conflicting accesses to `x` are ordered by happens-before: no data race on `x`. -/
theorem C20_lockset_sound (tr : List Ev) (x l : Nat) (hv : Valid tr) (hd : Disciplined tr x l) : ¬ Race tr x :=
  lockset_sound tr x l hv hd

/-- **Atomics.** If every access to `x` goes through sync/atomic, there is no data race on `x` (in any trace). -/
theorem C20_atomic_sound (tr : List Ev) (x : Nat) (h : AllAtomic tr x) : ¬ Race tr x := by
  rintro ⟨i, j, a, b, _, ha, hb, hax, hbx, _, hna, _, _⟩
  exact hna ⟨h i a ha hax, h j b hb hbx⟩

/-- **Construction phase.** If `x` is written only by the constructing thread before it publishes the object, and
    every other thread's access happens after the publication, there is no data race on `x` — whatever else the
    trace contains. (The rule behind "never written after construction".) -/
theorem C20_init_sound (tr : List Ev) (x t0 p : Nat) (h : WrittenOnlyBefore tr x t0 p) : ¬ Race tr x := by
  obtain ⟨⟨ep, hep, htp⟩, hwr, hothers⟩ := h
  rintro ⟨i, j, a, b, hij, ha, hb, hax, hbx, hw, _, hne, hnhb⟩
  rcases hw with hwa | hwb
  · obtain ⟨hat, hip⟩ := hwr i a ha hwa
    have hbt : b.tid ≠ t0 := fun e => hne (hat.trans e.symm)
    exact hnhb (HB.trans (HB.po hip ha hep (hat.trans htp.symm)) (hothers j b hb hbx hbt))
  · obtain ⟨hbt, hjp⟩ := hwr j b hb hwb
    have hat : a.tid ≠ t0 := fun e => hne (e.trans hbt.symm)
    have := hb_lt (hothers i a ha hax hat)
    omega

/-- A `go` statement publishes: everything the started goroutine does happens after it. -/
theorem C20_go_publishes (tr : List Ev) (p j t u : Nat) (e : Ev) (hp : tr[p]? = some (Ev.go t u)) (hj : tr[j]? = some e)
    (hlt : p < j) (hu : e.tid = u) : HB tr p j :=
  HB.sync hlt hp hj hu

/-! ### non-vacuity: the hypotheses are satisfiable by real multi-threaded traces, and `Race` is not empty -/

/-- Two unsynchronised writes by different threads race. -/
example : Race [Ev.wr 0 7, Ev.wr 1 7] 7 :=
  ⟨0, 1, .wr 0 7, .wr 1 7, by decide, rfl, rfl,   -- the two events
   rfl, rfl, .inl rfl,                            -- both access location 7, the first writes it
   by decide, by decide,                          -- not both atomic, different threads
   not_hb_of (by decide) (by decide) _⟩           -- not ordered: the later event is of another thread, and a write synchronises with nothing

/-- A writer under `Lock` and a reader under `RLock` of mutex 3 on location 7, two threads: valid and disciplined. -/
private def exTrace : List Ev :=
  [Ev.acqW 0 3, Ev.wr 0 7, Ev.relW 0 3, Ev.acqR 1 3, Ev.rd 1 7, Ev.relR 1 3]

example : Valid exTrace ∧ Disciplined exTrace 7 3 :=
  ⟨(valid_iff _).2 (by decide), (disciplined_iff ..).2 (by decide)⟩

/-- Constructor thread 0 writes location 7, starts goroutine 1, which reads it: the construction-phase hypothesis. -/
example : WrittenOnlyBefore [Ev.wr 0 7, Ev.go 0 1, Ev.rd 1 7] 7 0 1 := by
  refine ⟨⟨Ev.go 0 1, rfl, rfl⟩, (forall_getElem? _ _).2 (by decide), fun j e he hacc hne => ?_⟩
  -- the only access by another thread is the read at 2
  cases (forall_getElem? _ fun j e => isAccess 7 e = true → e.tid ≠ 0 → j = 2).2 (by decide) j e he hacc hne
  exact HB.sync (by decide) (a := Ev.go 0 1) rfl rfl rfl

/-! ## Part B — the regenerated table -/

private theorem mem_held_of_holds {a : Acc} {m : Text} (h : holds a m = true) : ∃ x, (m, x) ∈ a.held := by
  obtain ⟨⟨m', x⟩, hmem, he⟩ := List.any_eq_true.1 h
  obtain ⟨rfl, _⟩ : m' = m ∧ _ := by simpa using he
  exact ⟨x, hmem⟩

/-- **Per-field discipline ⇒ no conflicting pair.** Whatever the table: if a field is disciplined, no two of its
    post-construction access records conflict — so a race report the harness maps to this field is NOT predicted. -/
theorem C20_disciplined_no_conflict (f : Field) (h : disciplined f = true) (a b : Acc)
    (ha : a ∈ live f) (hb : b ∈ live f) : conflict a b = false := by
  unfold disciplined at h
  simp only [Bool.or_eq_true, List.all_eq_true] at h
  rcases h with h | h
  · -- neither writes, or neither is plain
    rcases h with h | h <;> simp [conflict, bne_iff_ne.1 (h a ha), bne_iff_ne.1 (h b hb)]
  · cases hl : live f with
    | nil => rw [hl] at ha; cases ha
    | cons c rest =>
      rw [hl] at h
      obtain ⟨m, _, hm⟩ := List.any_eq_true.1 h
      rw [← hl, List.all_eq_true] at hm
      -- all hold `m.1`; `a` holds it under that very name, so the pair has a common mutex
      obtain ⟨x, hx⟩ := mem_held_of_holds (hm a ha)
      have : (a.held.any fun h => holds a h.1 && holds b h.1) = true :=
        List.any_eq_true.2 ⟨(m.1, x), hx, by simp [hm a ha, hm b hb]⟩
      simp [conflict, this]

/-- … hence a predicted report always points at an undisciplined field of the table. -/
theorem C20_predicted_only_undisciplined (tab : List Field) (ty fld f1 f2 : Text)
    (h : predicted tab ty fld f1 f2 = true) : ∃ f ∈ tab, f.type = ty ∧ f.field = fld ∧ disciplined f = false := by
  unfold predicted at h
  simp only [List.any_eq_true, Bool.and_eq_true] at h
  obtain ⟨f, hf, ⟨hty, hfld⟩, a, ha, _, b, hb, _, hc⟩ := h
  refine ⟨f, hf, by simpa using hty, by simpa using hfld, ?_⟩
  cases hd : disciplined f
  · rfl
  · rw [C20_disciplined_no_conflict f hd a b ha hb] at hc; cases hc

/-- The fields of today's tree without a discipline (defect family D32): literal, compared with the regenerated table
    by `C20_undisciplined_witness`. When a defect is repaired its line goes away here. -/
def knownUndisciplined : List (Text × Text) :=
  [(t!"Client", t!"initialized"),
   (t!"Client", t!"state"),
   (t!"sseClientTransport", t!"endpoint"),
   -- the five stdio fields below are written once, under startMutex held by the CALLER of startProcessLocked, and read
   -- by the goroutines that function starts afterwards: ordered by the go statement, which the lexical table cannot
   -- express.  Close and the getters read them under startMutex since /repo efdf9ce; the race-detector runs are clean.
   (t!"stdioClientTransport", t!"process"),
   (t!"stdioClientTransport", t!"stderr"),
   (t!"stdioClientTransport", t!"stdin"),
   (t!"stdioClientTransport", t!"stdout"),
   (t!"stdioClientTransport", t!"waitDone"),
   (t!"streamableHTTPClientTransport", t!"enableGetSSE"),
   (t!"streamableHTTPClientTransport", t!"isStateless"),
   (t!"streamableHTTPClientTransport", t!"lastEventID"),
   (t!"streamableHTTPClientTransport", t!"sessionID")]

/-- **Witness**: the undisciplined fields of the regenerated table are exactly the named ones — none more (a new
    unsynchronised field breaks this), none fewer (a repaired one must be taken off the list).  The two theorems after it
    read their verdicts off this list. -/
theorem C20_undisciplined_witness : undisciplinedKeys Mcp.Gen.rcSharedFields = knownUndisciplined := by
  decide +kernel

private theorem disciplined_of_not_listed {tab : List Field} {f : Field} (hf : f ∈ tab) (hk : key f ∉ undisciplinedKeys tab) :
    disciplined f = true := by
  cases h : disciplined f
  · exact absurd (List.mem_map_of_mem (List.mem_filter.2 ⟨hf, by rw [h]; rfl⟩)) hk
  · rfl

/-- **What holds of today's source**: every shared field of the tracked structs other than the named ones is
    disciplined (never written after construction / atomic or sync.Map / one common mutex in the right mode),
    decided by the kernel over the complete regenerated table. -/
theorem C20_all_fields_disciplined_partial :
    ∀ f ∈ Mcp.Gen.rcSharedFields, key f ∉ knownUndisciplined → disciplined f = true :=
  fun _ hf hk => disciplined_of_not_listed hf (C20_undisciplined_witness ▸ hk)

/-- **C20's table obligation as stated** (`AllFieldsDisciplined`) is false of today's tree. -/
theorem C20_full_statement_refuted : ¬ AllFieldsDisciplined Mcp.Gen.rcSharedFields := by
  intro h
  have : undisciplinedKeys Mcp.Gen.rcSharedFields = [] := by
    rw [undisciplinedKeys, List.filter_eq_nil_iff.2 fun f hf => by rw [h f hf]; decide]; rfl
  exact List.cons_ne_nil _ _ (C20_undisciplined_witness.symm.trans this)

/-- **Repaired findings stay detectable**: the access records of `Session.LastActivity` and of
    `lifecycleManager.capabilities` as they were before their repair (literals) are rejected by the predicate, and the
    pairs the race detector reported on them are exactly pairs the table predicts. -/
theorem C20_repaired_records_rejected :
    disciplined d32LastActivity = false ∧ disciplined d32Capabilities = false ∧
    predicted [d32LastActivity] t!"session.Session" t!"LastActivity"
      t!"session.Session.GetLastActivity" t!"session.Session.UpdateActivity" = true ∧
    predicted [d32Capabilities] t!"lifecycleManager" t!"capabilities"
      t!"lifecycleManager.buildInitializeResponse" t!"lifecycleManager.updateCapabilities" = true ∧
    predicted [d32LastActivity] t!"session.Session" t!"LastActivity"
      t!"session.Session.UpdateActivity" t!"session.SessionManager.cleanupExpiredSessions" = false := by
  decide

/-- The table is not degenerate: it has fields under each of the three disciplines. -/
theorem C20_table_covers :
    (Mcp.Gen.rcSharedFields.any fun f => (live f).any (fun a => a.kind == .write) && (live f).all (fun a => a.sync != .plain)) = true ∧
    (Mcp.Gen.rcSharedFields.any fun f => (live f).any (fun a => a.kind == .write && a.sync == .plain) && disciplined f) = true ∧
    (Mcp.Gen.rcSharedFields.any fun f => (live f).all (fun a => a.kind != .write) && (f.accs.any fun a => a.init)) = true := by
  decide +kernel

/-! ### registry entries (rows of the same table: `Mcp.Entries`) -/

open Mcp.Entries in
/-- **Registered entries are read-only on the request paths**: every field of `Tool`, `Prompt`, `Resource`,
    `ResourceTemplate` and of the managers' records that is touched after construction — by the listings, the getters
    (`*tool` copies read all fields), calls, registration — is never written there (kernel-decided over the table; the
    rows are part of `rcSharedFields`, so `C20_all_fields_disciplined_partial` / `C20_undisciplined_witness` cover them
    too: a store through an entry pointer on a request path shows up as an undisciplined field). -/
theorem C20_registry_entries_read_only :
    ∀ f ∈ Mcp.Gen.rcSharedFields, isEntry f = true → readOnlyAfterInit f = true := by
  have h : (Mcp.Gen.rcSharedFields.all fun f => !isEntry f || readOnlyAfterInit f) = true := by decide +kernel
  intro f hf he
  simpa [he] using List.all_eq_true.1 h f hf

open Mcp.Entries in
/-- The entry rows exist and see the value copies: `Tool.InputSchema` (like every `Tool` field) is read by the listing
    and by the getters of the three servers; the manager's lock is recorded where it is held. -/
theorem C20_registry_entries_covered :
    (Mcp.Gen.rcSharedFields.any fun f => f.type == t!"Tool" && f.field == t!"InputSchema" &&
      (live f).any (fun a => a.fn == t!"toolManager.handleListTools" && a.kind == .read) &&
      (live f).any (fun a => a.fn == t!"Server.GetTools" && a.kind == .read) &&
      (live f).any (fun a => a.fn == t!"SSEServer.GetTool" && a.kind == .read) &&
      (live f).any (fun a => a.fn == t!"StdioServer.GetTools" && a.kind == .read)) = true ∧
    (Mcp.Gen.rcSharedFields.any fun f => f.type == t!"registeredTool" && f.field == t!"Tool" &&
      (live f).any (fun a => a.fn == t!"toolManager.getTools" && a.held == [(t!"toolManager.mu", false)])) = true ∧
    (Mcp.Gen.rcSharedFields.any fun f => f.type == t!"Prompt" && isEntry f) = true ∧
    (Mcp.Gen.rcSharedFields.any fun f => f.type == t!"Resource" && isEntry f) = true ∧
    (Mcp.Gen.rcSharedFields.any fun f => f.type == t!"ResourceTemplate" && isEntry f) = true := by
  decide +kernel

open Mcp.Entries in
/-- **A store through an entry pointer on a request path is rejected**: the default input schema written through the
    shared `*Tool` by the first tools/list with no lock (and the table predicts the races of that store with another
    listing and with a getter), or under the manager's READ lock; under the write lock with every reader under the read
    lock it is accepted — not while one getter copies the tool outside the lock. -/
theorem C20_entry_store_on_request_path_rejected :
    disciplined schemaFilledByFirstList = false ∧ readOnlyAfterInit schemaFilledByFirstList = false ∧
    predicted [schemaFilledByFirstList] t!"Tool" t!"InputSchema" t!"toolManager.handleListTools" t!"toolManager.handleListTools" = true ∧
    predicted [schemaFilledByFirstList] t!"Tool" t!"InputSchema" t!"Server.GetTools" t!"toolManager.handleListTools" = true ∧
    disciplined schemaFilledUnderRLock = false ∧
    disciplined schemaFilledUnderLock = true ∧
    disciplined schemaFilledUnderLockOneReaderOutside = false := by
  decide

/-! ## Part C — package-level variables (shared by every client and server of the process) -/

open Mcp.Globals in
/-- **Every package-level variable of the library is used with discipline** — decided by the kernel over the complete
    regenerated table (root package and every internal/… package): its declaration is understood and, after package
    initialisation, it is never written nor mutated through (a method call or hand-over of a container / an object
    whose methods may mutate it counts as a write), or only touched atomically, or always under one package-level
    mutex held in the right mode.  A `*rand.Rand`, buffer, map, slice, counter … shared by the goroutines of all
    clients without such a discipline makes this fail. -/
theorem C20_all_globals_disciplined : AllGlobalsDisciplined Mcp.Gen.rcGlobals :=
  List.all_eq_true.1 (by decide +kernel)

open Mcp.Globals in
/-- A disciplined variable has no two post-initialisation accesses that conflict — under the reading in which every
    mutating use is a write: a race report the harness maps to the variable is then not predicted. -/
theorem C20_global_disciplined_no_conflict (g : Global) (h : gDisciplined g = true) (a b : Acc)
    (ha : a ∈ live (asField g)) (hb : b ∈ live (asField g)) : conflict a b = false :=
  C20_disciplined_no_conflict _ (Bool.and_eq_true_iff.1 h).2 a b ha hb

open Mcp.Globals in
/-- **The predicate rejects what it must.**  A generator built with `rand.New` in a package-level variable and drawn
    from in the back-off step of `retry.Execute` with no lock is undisciplined, and the table predicts the race of
    `withJitter` with itself (two client calls backing off at the same time); behind a package-level mutex it is
    accepted; the same accesses on an object that is safe for concurrent use are accepted; a plain counter, a cache
    written under a lock but read without, a lookup table handed out to callers, and a declaration that was not
    understood are rejected. -/
theorem C20_unsafe_global_rejected :
    gDisciplined jitterUnlocked = false ∧
    predicted [asField jitterUnlocked] t!"retry" t!"jitterSource" t!"retry.withJitter" t!"retry.withJitter" = true ∧
    gDisciplined jitterLocked = true ∧
    predicted [asField jitterLocked] t!"retry" t!"jitterSource" t!"retry.withJitter" t!"retry.withJitter" = false ∧
    gDisciplined safeUsed = true ∧
    gDisciplined counterPlain = false ∧
    gDisciplined cacheHalfLocked = false ∧
    gDisciplined tableHandedOut = false ∧
    gDisciplined { jitterLocked with vkind := .unknown } = false := by
  decide

open Mcp.Globals in
/-- Non-vacuity of the table obligation: it is false of a table that contains the unlocked generator. -/
example : ¬ AllGlobalsDisciplined (jitterUnlocked :: Mcp.Gen.rcGlobals) :=
  fun h => absurd (h _ List.mem_cons_self) (by decide)

open Mcp.Globals in
/-- **The configuration-setter assumption, by name**: exactly one variable's verdict rests on it — `defaultLogger`,
    assigned by `SetDefaultLogger` with no lock and read by every constructor (`GetDefaultLogger`).  Calling the
    setter while another goroutine constructs a client or server IS a data race; the property's workloads do not
    include it (assumption in props.d/C20.json).  A new setter-written variable changes this list. -/
theorem C20_globals_config_assumed :
    configAssumed Mcp.Gen.rcGlobals = [((t!"mcp", t!"defaultLogger"), [t!"SetDefaultLogger"])] := by
  decide +kernel

open Mcp.Globals in
/-- The table is not degenerate: it reaches the root package and the internal packages (the retry package's table of
    status codes among them), and has variables of several kinds that ARE used after initialisation. -/
theorem C20_globals_table_covers :
    (Mcp.Gen.rcGlobals.any fun g => g.pkg == t!"mcp") = true ∧
    (Mcp.Gen.rcGlobals.any fun g => g.pkg == t!"retry" && g.vkind == .container && !(live (asField g)).isEmpty) = true ∧
    (Mcp.Gen.rcGlobals.any fun g => g.pkg == t!"errors" && g.vkind == .immutable && !(live (asField g)).isEmpty) = true ∧
    (Mcp.Gen.rcGlobals.any fun g => g.vkind == .safeObject && (g.accs.any fun a => a.kind == .use && !a.init)) = true ∧
    (Mcp.Gen.rcGlobals.all fun g => g.accs.any fun a => a.init && a.kind == .write) = true := by
  decide +kernel

/-! ## Part D — the caller's memory behind API arguments -/

open Mcp.ApiArgs in
/-- **Arguments the library keeps by contract** — every non-compliant entry of today's table but the known defect
    (`knownRetention`), reviewed; table order.
    Reasons:
    * [opt]  option / property constructors (`With…`, `Enum`, `Items`, `Properties`): the result is a closure that
             captures the argument (`returnedAsIs`) and reads or copies it when the option is APPLIED — by `NewTool`,
             `NewServer`, `NewSSEServer`, `NewClient`, `NewStdioClient`, `NewResourceTemplate` before they return; where
             the built object keeps the argument itself (`storedAsIs`: `Items`, `Properties`, `WithToolAnnotations`,
             `WithTemplateAnnotations`, `WithHTTPHeaders`, `WithCustomServer`, `WithHTTPServer`) it is configuration
             handed over at construction: the caller does not touch it afterwards.
    * [reg]  registration keeps the entry: `Register{Tool,Prompt,Resource,Resources,ResourceTemplate}` of the three
             servers store the pointer in the registry, listings and calls read it later; `GetTool(s)` hand out
             copies.  Contract (assumption of this property): registered entries are not mutated after registration.
    * [http] net/http's own contracts: the `*http.Request` of `ServeHTTP` is net/http's for the duration of the
             handler (the legacy SSE server reads its context and headers from the goroutines of that request);
             `defaultHTTPReqHandler.Handle` performs the request it is given with the client it is given
             (`http.Client` is safe for concurrent use, the request was built by the library for this one call). -/
def reviewedRetention : List Reviewed :=
  [⟨t!"Enum", t!"values", .returnedAsIs⟩,                                   -- [opt] copied into a fresh []any when applied
   ⟨t!"Items", t!"itemSchema", .storedAsIs⟩,                                -- [opt] the schema keeps the item schema
   ⟨t!"Properties", t!"props", .storedAsIs⟩,                                -- [opt] the schema keeps the property map
   ⟨t!"SSEServer.RegisterPrompt", t!"prompt", .storedAsIs⟩,                 -- [reg]
   ⟨t!"SSEServer.RegisterResource", t!"resource", .storedAsIs⟩,             -- [reg]
   ⟨t!"SSEServer.RegisterResourceTemplate", t!"template", .storedAsIs⟩,     -- [reg]
   ⟨t!"SSEServer.RegisterResources", t!"resource", .storedAsIs⟩,            -- [reg]
   ⟨t!"SSEServer.RegisterTool", t!"tool", .storedAsIs⟩,                     -- [reg]
   ⟨t!"SSEServer.ServeHTTP", t!"r", .unknown⟩,                              -- [http]
   ⟨t!"Server.RegisterPrompt", t!"prompt", .storedAsIs⟩,                    -- [reg]
   ⟨t!"Server.RegisterResource", t!"resource", .storedAsIs⟩,                -- [reg]
   ⟨t!"Server.RegisterResourceTemplate", t!"template", .storedAsIs⟩,        -- [reg]
   ⟨t!"Server.RegisterResources", t!"resource", .storedAsIs⟩,               -- [reg]
   ⟨t!"Server.RegisterTool", t!"tool", .storedAsIs⟩,                        -- [reg]
   ⟨t!"StdioServer.RegisterPrompt", t!"prompt", .storedAsIs⟩,               -- [reg]
   ⟨t!"StdioServer.RegisterResource", t!"resource", .storedAsIs⟩,           -- [reg]
   ⟨t!"StdioServer.RegisterResourceTemplate", t!"template", .storedAsIs⟩,   -- [reg]
   ⟨t!"StdioServer.RegisterResources", t!"resource", .storedAsIs⟩,          -- [reg]
   ⟨t!"StdioServer.RegisterTool", t!"tool", .storedAsIs⟩,                   -- [reg]
   ⟨t!"WithArray", t!"opts", .returnedAsIs⟩,                                -- [opt] property options applied when the tool option is
   ⟨t!"WithBoolean", t!"opts", .returnedAsIs⟩,                              -- [opt]
   ⟨t!"WithCustomServer", t!"srv", .storedAsIs⟩,                            -- [opt] the server uses the caller's http.Server
   ⟨t!"WithHTTPHeaders", t!"headers", .storedAsIs⟩,                         -- [opt] the transport keeps the header map and reads it per request
   ⟨t!"WithHTTPReqHandlerOption", t!"options", .returnedAsIs⟩,              -- [opt] appended to the transport's own slice when applied
   ⟨t!"WithHTTPServer", t!"srv", .storedAsIs⟩,                              -- [opt]
   ⟨t!"WithInputStruct", t!"opts", .returnedAsIs⟩,                          -- [opt]
   ⟨t!"WithInteger", t!"opts", .returnedAsIs⟩,                              -- [opt]
   ⟨t!"WithMiddleware", t!"middlewares", .returnedAsIs⟩,                    -- [opt] appended to the server's own slice when applied
   ⟨t!"WithNumber", t!"opts", .returnedAsIs⟩,                               -- [opt]
   ⟨t!"WithObject", t!"opts", .returnedAsIs⟩,                               -- [opt]
   ⟨t!"WithOutputStruct", t!"opts", .returnedAsIs⟩,                         -- [opt]
   ⟨t!"WithSSEMiddleware", t!"middlewares", .returnedAsIs⟩,                 -- [opt]
   ⟨t!"WithStdioCapabilities", t!"capabilities", .returnedAsIs⟩,            -- [opt] copied entry by entry when applied
   ⟨t!"WithString", t!"opts", .returnedAsIs⟩,                               -- [opt]
   ⟨t!"WithTemplateAnnotations", t!"audience", .storedAsIs⟩,                -- [opt] the template keeps the audience slice
   ⟨t!"WithToolAnnotations", t!"annotations", .storedAsIs⟩,                 -- [opt] the tool keeps the annotations object
   ⟨t!"defaultHTTPReqHandler.Handle", t!"client", .unknown⟩,                -- [http]
   ⟨t!"defaultHTTPReqHandler.Handle", t!"req", .unknown⟩]                   -- [http]

open Mcp.ApiArgs in
/-- **Known defect** (open finding `races:arg:StdioServer.SendRequest:request`, confirmed by the race detector):
    `StdioServer.SendRequest` puts the caller's `*JSONRPCRequest` itself on the session's message channel; the writer
    goroutine encodes it later.  When the call returns early — the caller's context ends while the request is queued —
    the caller owns the request again while the library still reads it. -/
def knownRetention : List Reviewed :=
  [⟨t!"StdioServer.SendRequest", t!"request", .sentAsIs⟩]

open Mcp.ApiArgs in
private theorem argsNotRetained_of_retained {rs : List Reviewed} {tab : List ApiArg} (h : ∀ r ∈ retained tab, r ∈ rs) :
    ArgsNotRetained rs tab := by
  intro e he
  cases hc : compliant e
  · have hm := h _ (List.mem_map_of_mem (f := fun e => (⟨e.api, e.param, verdict e⟩ : Reviewed))
      (List.mem_filter.2 ⟨he, by rw [hc]; rfl⟩))
    exact .inr (List.any_eq_true.2 ⟨_, hm, by simp⟩)
  · exact .inl rfl

/-- A list whose members outside `b` are exactly `a`, and which has all of `b`, has the members of `a ++ b`. -/
private theorem mem_iff_of_filter_eq {α : Type} [DecidableEq α] {l a b : List α}
    (h1 : l.filter (fun r => !b.contains r) = a) (h2 : b.all l.contains = true) (r : α) : r ∈ l ↔ r ∈ a ++ b := by
  rw [List.mem_append, ← h1, List.mem_filter]
  by_cases hb : r ∈ b
  · simpa [hb] using List.contains_iff_mem.1 (List.all_eq_true.1 h2 r hb)
  · simp [hb]

open Mcp.ApiArgs in
/-- The reviewed and known entries are exactly the non-compliant ones: none more (a new retention breaks
    `C20_api_args_not_retained`), none fewer (an entry that became compliant, or changed its verdict, must leave). -/
theorem C20_api_args_review_exact :
    ∀ r, r ∈ retained Mcp.Gen.rcApiArgs ↔ r ∈ reviewedRetention ++ knownRetention :=
  -- the non-compliant entries other than the known defect ARE the reviewed list, in table order, and the known defect
  -- is one of them
  mem_iff_of_filter_eq (by decide +kernel) (by decide +kernel)

open Mcp.ApiArgs in
/-- **The library keeps no API argument beyond the call**, decided by the kernel over the complete regenerated table of
    the map / slice / pointer parameters of the public API: the argument's own object is not stored in memory that
    outlives the call, not handed to another goroutine, not aliased by the result, not passed to unknown code — it is
    only read before the call returns, or copied — except the reviewed entries (by contract) and the known defect,
    each matched with its exact verdict. -/
theorem C20_api_args_not_retained : ArgsNotRetained (reviewedRetention ++ knownRetention) Mcp.Gen.rcApiArgs :=
  argsNotRetained_of_retained fun r hr => (C20_api_args_review_exact r).1 hr

open Mcp.ApiArgs in
/-- **The send APIs are in the table and keep nothing**: the notification constructors and every public way of sending
    a notification or a server→client request with caller-built parameters (the three `Server` send APIs, the legacy
    SSE server's, the notification sender handlers find in their context), the client calls, and `UnregisterTools`. -/
theorem C20_send_apis_keep_nothing :
    keepsNothing Mcp.Gen.rcApiArgs t!"NewJSONRPCNotificationFromMap" t!"params" = true ∧
    keepsNothing Mcp.Gen.rcApiArgs t!"NewNotification" t!"params" = true ∧
    keepsNothing Mcp.Gen.rcApiArgs t!"Server.NewNotification" t!"params" = true ∧
    keepsNothing Mcp.Gen.rcApiArgs t!"Server.SendNotification" t!"params" = true ∧
    keepsNothing Mcp.Gen.rcApiArgs t!"Server.BroadcastNotification" t!"params" = true ∧
    keepsNothing Mcp.Gen.rcApiArgs t!"Server.SendFilteredNotification" t!"params" = true ∧
    keepsNothing Mcp.Gen.rcApiArgs t!"SSEServer.SendNotification" t!"params" = true ∧
    keepsNothing Mcp.Gen.rcApiArgs t!"sseNotificationSender.SendCustomNotification" t!"params" = true ∧
    keepsNothing Mcp.Gen.rcApiArgs t!"sseNotificationSender.SendNotification" t!"notification" = true ∧
    keepsNothing Mcp.Gen.rcApiArgs t!"Server.SendRequest" t!"request" = true ∧
    keepsNothing Mcp.Gen.rcApiArgs t!"SSEServer.SendRequest" t!"request" = true ∧
    keepsNothing Mcp.Gen.rcApiArgs t!"Client.CallTool" t!"callToolReq" = true ∧
    keepsNothing Mcp.Gen.rcApiArgs t!"StdioClient.CallTool" t!"req" = true ∧
    keepsNothing Mcp.Gen.rcApiArgs t!"Server.UnregisterTools" t!"names" = true := by
  decide +kernel

open Mcp.ApiArgs in
/-- **The predicate rejects what it must.**  A notification constructor that uses the caller's params map itself
    (`returnedAsIs`) and a `SendNotification` that queues that notification for the session's writer goroutine
    (`sentAsIs`) are neither compliant nor reviewed; the same API with a copying constructor is compliant; an argument
    passed to unknown code is rejected; `RegisterTool` keeping the `*Tool` is reviewed, but not if it also handed the
    tool to another goroutine (the verdict is part of the review). -/
theorem C20_retained_argument_rejected :
    compliant ctorKeepsMap = false ∧ reviewedBy (reviewedRetention ++ knownRetention) ctorKeepsMap = false ∧
    compliant sendQueuesMap = false ∧ verdict sendQueuesMap = .sentAsIs ∧
    reviewedBy (reviewedRetention ++ knownRetention) sendQueuesMap = false ∧
    compliant sendCopiesMap = true ∧
    compliant argEscapes = false ∧ reviewedBy (reviewedRetention ++ knownRetention) argEscapes = false ∧
    compliant registerKeepsTool = false ∧ reviewedBy (reviewedRetention ++ knownRetention) registerKeepsTool = true ∧
    reviewedBy (reviewedRetention ++ knownRetention) registerSendsTool = false := by
  decide

open Mcp.ApiArgs in
/-- Non-vacuity of the table obligation: it is false of a table that contains the queued params map. -/
example : ¬ ArgsNotRetained (reviewedRetention ++ knownRetention) (sendQueuesMap :: Mcp.Gen.rcApiArgs) :=
  fun h => absurd (h _ List.mem_cons_self) (by decide)

/-! ## Part E — locals shared with the goroutines a function starts -/

open Mcp.GoClosures in
/-- **No local variable is written by several goroutines of its function without a mutex**, decided by the kernel over
    the complete regenerated table of the variables that goroutine literals (`go func(){…}()`, `go f()` for a bound
    literal) write in their enclosing function: at most one writing goroutine instance, or one common mutex held
    exclusively at every write. -/
theorem C20_shared_locals_disciplined : AllSharedLocalsDisciplined Mcp.Gen.rcSharedLocals :=
  List.all_eq_true.1 (by decide +kernel)

/-- The search behind that table is not empty: goroutine literals were found and examined in these functions (the
    legacy SSE server's stream handler, the stdio transports, the client transports' stream starters). -/
theorem C20_go_literals_examined :
    (Mcp.Gen.rcGoFunctions.any fun p => p.1 == t!"SSEServer.handleSSE" && decide (p.2 ≥ 1)) = true ∧
    (Mcp.Gen.rcGoFunctions.any fun p => p.1 == t!"stdioTransport.processInputStream" && decide (p.2 ≥ 1)) = true ∧
    (Mcp.Gen.rcGoFunctions.any fun p => p.1 == t!"streamableHTTPClientTransport.establishGetSSE" && decide (p.2 ≥ 1)) = true ∧
    (Mcp.Gen.rcGoFunctions.any fun p => p.1 == t!"sseClientTransport.start" && decide (p.2 ≥ 1)) = true := by
  decide +kernel

open Mcp.GoClosures in
/-- **The predicate rejects what it must**: the failures of three pipe-closing goroutines appended to the function's
    `errs` slice with no lock (and the table predicts the race of the literal with itself), a counter guarded in one
    place only, a write under a read lock; it accepts the append under a mutex and a single writing goroutine. -/
theorem C20_unguarded_shared_local_rejected :
    lDisciplined errsAppendedByClosers = false ∧
    predicted [asField errsAppendedByClosers] t!"stdioClientTransport.close" t!"errs"
      t!"stdioClientTransport.close.go#1" t!"stdioClientTransport.close.go#1" = true ∧
    lDisciplined errsAppendedUnderMutex = true ∧
    lDisciplined singleWriter = true ∧
    lDisciplined halfGuardedTotal = false ∧
    lDisciplined underReadLock = false := by
  decide

open Mcp.GoClosures in
/-- Non-vacuity of the table obligation. -/
example : ¬ AllSharedLocalsDisciplined (errsAppendedByClosers :: Mcp.Gen.rcSharedLocals) :=
  fun h => absurd (h _ List.mem_cons_self) (by decide)

end Mcp.Props.C20
