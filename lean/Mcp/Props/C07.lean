/-
  C07 — clients survive arbitrary server output.

  For each of the five client readers (`Mcp.Model.Readers`, transcribed from the Go source, tied to it by the `readers`
  harness) and EVERY token stream:
    * `C07_total_*`, `C07_alive_get`: the reader never panics, never spins, never stops;
    * `C07_resync_*`, `C07_padded_answer_delivered`: complete garbage before a well-formed frame never prevents that
      frame from being processed;
    * `C07_isolation_*`: a frame that is not addressed to call c does not change c's outcome;
    * `C07_unknown_id_harmless_*`: a frame whose id selects no pending call changes no call's outcome;
    * `C07_close_ok_stdio`: Close ends the read loop;
    * `C07_later_call_legacy`, `_stdio`: a call made while the reader is alive is answered — so after failed handshakes
      (`C07_handshake_retry_*`) and after a burst of notifications (`C07_burst_stdio`, `C07_call_after_burst_stdio`);
      the Streamable client's later requests carry the last event id and can be sent after any stream at all
      (`C07_later_call_streamable`, good region) or any stream without a header-unsafe `id:` line
      (`C07_later_call_streamable_partial`, every region); `C07_post_id_run_fst`, `C07_get_id_run_fst`: the id tracking
      rides on the readers above;
    * single inputs: a non-JSON `data:` line fails that call only (`C07_post_bad_data_is_call_error`); an `event:` field
      on the GET stream is inert (`C07_get_event_field_inert`); a server request before the endpoint is known is dropped
      (`C07_request_before_endpoint`), a missing endpoint event leaves the latch open (`C07_missing_endpoint_no_latch`);
      white space around a stdio frame changes nothing (`C07_stdio_padding_irrelevant`), a value spread over lines or
      sharing one is skipped (`C07_stdio_one_value_per_line`); a well-formed answer's `result` is handed over unopened
      (`C07_result_opaque`).
  The readers are a family indexed by facts regenerated from the source (`Mcp.Gen.rdFacts`, `rdIdChecked`).  The full
  statements are proved for the good region, the regenerated facts are shown to lie in it (`C07_facts_good`,
  `C07_fact_id_checked`, `C07_fact_id_key`, by `decide`), and the statements are instantiated for the tree as it is
  (`C07_*_here`).  The bad regions of the family — the code before its repairs — keep their witness theorems, each on
  the concrete failing stream:
    * `C07_total_legacy_counterexample`: legacy SSE, unguarded latch, second `endpoint` event: `close of closed
      channel`, the process dies (D15)
    * `C07_total_stdio_counterexample`: stdio, decoder loop that continues, one non-JSON line: the decoder's error is
      sticky, `readLoop` spins and is deaf (D16); `C07_resync_stdio_stop_counterexample`: a decoder loop that leaves
      instead does not spin and is just as deaf
    * `C07_resync_get_counterexample`: GET stream, Scanner, one line of 64 KiB or more: the Scanner gives up, the stream
      is dead silently (D17)
    * `C07_later_call_streamable_counterexample`: event ids stored unchecked, one `id:` line with a control character:
      the call is answered, the client's next request cannot be sent (D33)

  Every reader is a `foldl`: a property of a run is an invariant of the step, or a relation between two runs kept by the
  step.  A handler changes the pending table by ONE `Table.deliver` that selects nobody the frame is not addressed to
  (`legMessage_eq`, `stdioValue_eq`).  On the two shared streams everything about one call `c` is said through the view of
  `c` (`LegSim`, `StdioSim`): a frame not addressed to `c` is invisible to `c`, and what `c` sees of a step is decided by
  what it saw before; isolation is the two together.
-/
import Mcp.Model.Readers
import Mcp.Gen.ReaderFacts
namespace Mcp.Props.C07
open Mcp.Str Mcp.Json Mcp.Readers

/-- regenerated fact, decided: today's matcher and legacy table compare `requestIDKey` renderings (D01 repaired) -/
theorem C07_fact_id_key : idKeyToday = true := by decide

private theorem idMatches_self (req : Nat) : idMatches req (.int (req : Int)) = true := by
  simp [idMatches, idMatchesK, C07_fact_id_key]

private theorem keyIs_self (c : Nat) : keyIs c (.int (c : Int)) = true := by simp [keyIs, idInt64]

private theorem payloadOf_nonEmpty (v : Json) : (payloadOf v).nonEmpty = true := rfl

/-! ## what each handler does with the well-formed frame -/

private theorem postData_result (req : Nat) (H : List Text) (st : PostSt) (r : Json) :
    postData req H st (payloadOf (wfResult req r)) = postReceived H st (.ok r) := by
  simp [postData, payloadOf, wfResult, postAddressed, lookup, hasKey, idMatches_self]

private theorem getDispatch_note {H : List Text} (st : GetSt) {m : Text} (p : Obj) (hm : m ∈ H) :
    getDispatch H st (payloadOf (wfNote m p)) = { st with notes := st.notes ++ [(m, .obj p)] } := by
  simp [getDispatch, payloadOf, wfNote, msgType, lookupStr?, lookup, hasKey, notifDecodes, strOrNull, objOrNull, methodOf,
    paramsOf, extractString, hm]

private theorem legMessage_result (st : LegSt) (c : Nat) (r : Json) :
    legMessage st (payloadOf (wfResult c r)) =
      { st with tbl := st.tbl.deliver (fun k => idMatches k (.int (c : Int))) (.ok r) } := by
  simp [legMessage, payloadOf, wfResult, hasKey, lookup, idOf, outOfResponse]

private theorem stdioValue_result (H : List Text) (st : StdioSt) (c : Nat) (o : Obj) :
    stdioValue H st (wfResult c (.obj o)) =
      { st with tbl := st.tbl.deliver (fun k => keyIs k (.int (c : Int))) (.ok (.obj o)) } := by
  simp [stdioValue, wfResult, msgType, lookupStr?, lookup, hasKey, idOf]

private theorem stdioValue_note {H : List Text} (st : StdioSt) {m : Text} (p : Obj) (hm : m ∈ H) :
    stdioValue H st (wfNote m p) = { st with notes := st.notes ++ [(m, .obj p)] } := by
  simp [stdioValue, msgType, wfNote, lookupStr?, lookup, hasKey, notifDecodes, strOrNull, objOrNull, methodOf, paramsOf,
    extractString, hm]

/-! ## 1. JSON body -/

/-- The JSON-body reader is a total function of (status, body); it hands a result to the caller only for status 200 and a
    JSON object without an `error` member that has a `result` member — everything else makes the call return an error. -/
theorem C07_total_json (status : Nat) (body : Payload) (h : (jsonBody status body).isOk = true) :
    status = 200 ∧ ∃ m r, body.json = some (.obj m) ∧ hasKey m t!"error" = false ∧ lookup m t!"result" = some r ∧
      jsonBody status body = .ok r := by
  unfold jsonBody at h ⊢
  split at h
  · exact nomatch h                -- another status
  next hs =>
  rw [if_neg hs]
  split at h
  next m hb =>
    unfold outOfResponse at h ⊢
    split at h
    · exact nomatch h              -- an `error` member
    next he =>
    rw [if_neg he]
    split at h
    next r hr => exact ⟨Decidable.not_not.mp hs, m, r, hb, Bool.eq_false_iff.mpr he, hr, rfl⟩
    · exact nomatch h              -- no `result` member
  · exact nomatch h                -- `null`
  · exact nomatch h                -- no JSON, or not an object

/-- garbage bodies, bodies of the wrong JSON type and non-200 statuses all end in an error (non-vacuity of the above) -/
example : (jsonBody 200 ⟨true, none, false⟩).isOk = false ∧ (jsonBody 200 ⟨true, some (.arr []), false⟩).isOk = false ∧
    (jsonBody 500 (payloadOf (wfResult 2 (.obj [])))).isOk = false ∧ (jsonBody 200 (payloadOf (wfResult 2 (.obj [])))).isOk = true := by
  decide

/-! ## 2. POST-SSE (one call's own stream) -/

private theorem postStep_inert (req : Nat) (H : List Text) (st : PostSt) (l : Line) (hl : postInert req l = true) :
    ∃ ns, postStep req H st l = { st with notes := ns } := by
  have notif : ∀ m, notifDecodes m = true → ∃ ns, postNotif H st m = { st with notes := ns } := by
    intro m hn
    unfold postNotif
    rw [if_pos hn]
    split <;> exact ⟨_, rfl⟩
  unfold postStep
  split
  · exact ⟨_, rfl⟩
  · unfold postInert at hl
    split at hl
    · unfold postData
      split at hl
      · rename_i m _
        rw [Bool.and_eq_true, Bool.not_eq_true'] at hl
        rw [hl.1]
        exact notif m hl.2
      · exact notif [] (by decide)
      · exact absurd hl (by decide)
    · exact ⟨_, rfl⟩

private theorem postRun_inert (req : Nat) (H : List Text) (g : List Line) (hg : ∀ l ∈ g, postInert req l = true) (st : PostSt) :
    ∃ ns, postRun req H st g = { st with notes := ns } :=
  List.foldlRecOn (motive := fun s : PostSt => ∃ ns, s = { st with notes := ns }) g _ ⟨_, rfl⟩ fun _ ⟨_, hs⟩ l hl =>
    hs ▸ postStep_inert req H _ l (hg l hl)

private theorem postRun_append (req : Nat) (H : List Text) (st : PostSt) (a b : List Line) :
    postRun req H st (a ++ b) = postRun req H (postRun req H st a) b := List.foldl_append ..

/-- resync, POST-SSE: whatever inert lines (comments, blank lines, unknown fields, other peoples' frames, notifications,
    70 KiB or 1 MiB of them) precede the answer on the call's stream, the call returns that answer's result. -/
theorem C07_resync_post (req : Nat) (H : List Text) (g : List Line)
    (hg : ∀ l ∈ g, postInert req l = true) (r : Json) (n : Nat) :
    postCall req H (g ++ [dataLine (wfResult req r) n]) .eof = .ok r := by
  obtain ⟨ns, e⟩ := postRun_inert req H g hg {}
  rw [postCall, postRun_append, e]
  -- the answer is recorded; without handlers the call returns it at once, with handlers at the end of the stream
  by_cases hH : H = [] <;> simp [postRun, postStep, dataLine, postData_result, postReceived, postFinish, hH]

/-- the call always returns: at the end of the stream, or (silent stream) at the caller's deadline — `postCall` is a total
    function; and once it has returned, nothing that follows on the stream is read any more. -/
theorem C07_total_post (req : Nat) (H : List Text) (st : PostSt) (ls : List Line) (o : CallOut) (h : st.done = some o) :
    (postRun req H st ls).done = some o :=
  List.foldlRecOn (motive := fun s : PostSt => s.done = some o) ls _ h fun s hs l _ => by simp [postStep, hs]

/-- a bad frame inside the call's own stream (a `data:` line that is not JSON) makes THAT call return an error — the allowed
    outcome — it neither hangs nor panics. -/
theorem C07_post_bad_data_is_call_error (req : Nat) (H : List Text) (g : List Line)
    (hg : ∀ l ∈ g, postInert req l = true) (p : Payload) (hp : p.json = none) (ind : Bool) (n : Nat) (rest : List Line) (e : End) :
    postCall req H (g ++ ⟨.data p, ind, n⟩ :: rest) e = .failed .parse := by
  obtain ⟨ns, hi⟩ := postRun_inert req H g hg {}
  rw [postCall, postRun_append, hi]
  have : (postRun req H { notes := ns } (⟨.data p, ind, n⟩ :: rest)).done = some (.failed .parse) :=
    C07_total_post req H _ rest _ (by simp [postStep, postData, hp])
  cases e <;> simp [postFinish, this]

/-- unknown ids, ids of the wrong type: a well-shaped JSON-RPC object whose id is not (`requestIDKey`-equal to) the
    request's changes neither the outcome nor what was received so far. -/
theorem C07_unknown_id_harmless_post (req : Nat) (H : List Text) (st : PostSt) (m : Obj) (hd : st.done = none)
    (hid : postAddressed req m = false) (hn : notifDecodes m = true) (ind : Bool) (n : Nat) :
    (postStep req H st ⟨.data ⟨true, some (.obj m), false⟩, ind, n⟩).done = none ∧
    (postStep req H st ⟨.data ⟨true, some (.obj m), false⟩, ind, n⟩).result = st.result := by
  obtain ⟨_, e⟩ := postStep_inert req H st ⟨.data ⟨true, some (.obj m), false⟩, ind, n⟩ (by simp [postInert, hid, hn])
  rw [e]
  exact ⟨hd, rfl⟩

/-- ids of the wrong JSON type never match — not even a string that spells the same digits; the counter value matches
    whatever its size. Before the D01 repair (`%v` on both sides) the string "2" matched call 2 and the answer to call
    10^6 did not match. -/
example : idMatches 2 .null = false ∧ idMatches 2 (.bool true) = false ∧ idMatches 2 (.arr [.int 2]) = false ∧
    idMatches 2 (.dec 25 1) = false ∧ idMatches 2 (.str t!"abc") = false ∧ idMatches 2 (.str t!"2") = false ∧
    idMatches 1000000 (.int 1000000) = true ∧
    idMatchesK false 2 (.str t!"2") = true ∧ idMatchesK false 1000000 (.int 1000000) = false := by decide

example : postCall 2 [t!"verif/n"]
    [⟨.comment, false, 71680⟩, ⟨.data (payloadOf (wfNote t!"verif/n" [(t!"k", .int 1)])), false, 60⟩, ⟨.blank, false, 0⟩,
     ⟨.data (payloadOf (wfResult 9 (.obj []))), false, 50⟩, dataLine (wfResult 2 (.obj [])) 50] .eof = .ok (.obj []) :=
  C07_resync_post 2 [t!"verif/n"]
    [⟨.comment, false, 71680⟩, ⟨.data (payloadOf (wfNote t!"verif/n" [(t!"k", .int 1)])), false, 60⟩, ⟨.blank, false, 0⟩,
     ⟨.data (payloadOf (wfResult 9 (.obj []))), false, 50⟩] (by decide) (.obj []) 50

/-! ## 3. GET stream -/

private theorem getDispatch_halt (H : List Text) (st : GetSt) (p : Payload) : (getDispatch H st p).halt = st.halt := by
  unfold getDispatch
  split
  · rfl
  · split
    · split <;> rfl
    · split <;> rfl
    · rfl

private theorem getStep_halt (F : Facts) (H : List Text) (st : GetSt) (l : Line) :
    (getStep F H st l).halt = st.halt ∨ (tooLong F.getLimit l.size = true ∧ (getStep F H st l).halt = some .dead) := by
  unfold getStep
  split
  · exact .inl rfl
  · split
    · exact .inr ⟨‹_›, rfl⟩
    · refine .inl ?_
      split
      · split
        · rw [getDispatch_halt]
        · rfl
      · rfl
      · rfl

private theorem getRun_append (F : Facts) (H : List Text) (st : GetSt) (a b : List Line) :
    getRun F H st (a ++ b) = getRun F H (getRun F H st a) b := List.foldl_append ..

/-- the GET-stream reader never panics and never spins, whatever the stream and whatever the facts: the only way it stops
    is `dead` (the Scanner's error ends the loop). -/
theorem C07_total_get (F : Facts) (H : List Text) (ls : List Line) (st : GetSt)
    (hs : st.halt = none ∨ st.halt = some .dead) :
    (getRun F H st ls).halt = none ∨ (getRun F H st ls).halt = some .dead :=
  List.foldlRecOn (motive := fun s : GetSt => s.halt = none ∨ s.halt = some .dead) ls _ hs fun s hs l _ => by
    rcases getStep_halt F H s l with e | ⟨_, e⟩ <;> rw [e]
    · exact hs
    · exact .inr rfl

private theorem get_alive_below_limit (F : Facts) (H : List Text) (ls : List Line) (st : GetSt) (hs : st.halt = none)
    (hl : ∀ l ∈ ls, tooLong F.getLimit l.size = false) : (getRun F H st ls).halt = none :=
  List.foldlRecOn (motive := fun s : GetSt => s.halt = none) ls _ hs fun s hs l hmem => by
    rcases getStep_halt F H s l with e | ⟨h, _⟩
    · exact e.trans hs
    · rw [hl l hmem] at h; exact nomatch h

/-- full statement, good region (a reader without a line limit — today): NO stream stops the reader. -/
theorem C07_alive_get (F : Facts) (hF : F.getLimit = none) (H : List Text) (ls : List Line) (st : GetSt) (hs : st.halt = none) :
    (getRun F H st ls).halt = none :=
  get_alive_below_limit F H ls st hs (fun _ _ => hF ▸ rfl)

private theorem getRun_event {F : Facts} (H : List Text) {st : GetSt} (hs : st.halt = none) (v : Json) {n : Nat}
    (hn : tooLong F.getLimit n = false) :
    getRun F H st (getEvent v n) = getDispatch H { st with data := none } (payloadOf v) := by
  -- the blank line that ends the event has no bytes
  have h0 : tooLong F.getLimit 0 = false := by
    cases hF : F.getLimit <;> simp_all [tooLong]
    omega
  simp [getRun, getEvent, getStep, hs, dataLine, blankLine, payloadOf_nonEmpty, hn, h0]

private theorem get_resync_below_limit (F : Facts) (H : List Text) (st : GetSt) (hs : st.halt = none) (g : List Line)
    (hg : ∀ l ∈ g, tooLong F.getLimit l.size = false) (method : Text) (params : Obj) (hm : method ∈ H) (n : Nat)
    (hn : tooLong F.getLimit n = false) :
    (getRun F H st (g ++ getEvent (wfNote method params) n)).notes = (getRun F H st g).notes ++ [(method, .obj params)] := by
  rw [getRun_append, getRun_event H (get_alive_below_limit F H g st hs hg) _ hn, getDispatch_note _ _ hm]

/-- resync, full statement, good region: ANY lines before a well-formed event, of any length. -/
theorem C07_resync_get (F : Facts) (hF : F.getLimit = none) (H : List Text) (st : GetSt) (hs : st.halt = none) (g : List Line)
    (method : Text) (params : Obj) (hm : method ∈ H) (n : Nat) :
    (getRun F H st (g ++ getEvent (wfNote method params) n)).notes = (getRun F H st g).notes ++ [(method, .obj params)] :=
  get_resync_below_limit F H st hs g (fun _ _ => hF ▸ rfl) method params hm n (hF ▸ rfl)

/-- witness for the bad region (a Scanner with its default limit, D17): one comment line of 65536 bytes, then a well-formed notification — the reader is
    dead and the notification is never delivered. -/
theorem C07_resync_get_counterexample (g : Bool) (e : OnErr) :
    (getRun ⟨some 65536, g, e⟩ [t!"verif/n"] {} (⟨.comment, false, 65536⟩ :: getEvent (wfNote t!"verif/n" []) 60)).notes = [] ∧
    (getRun ⟨some 65536, g, e⟩ [t!"verif/n"] {} (⟨.comment, false, 65536⟩ :: getEvent (wfNote t!"verif/n" []) 60)).halt = some .dead := by
  simp [getRun, getStep, tooLong, getEvent]

example : (getRun ⟨none, true, .resync⟩ [t!"verif/n"] {}
    ([⟨.data ⟨true, none, false⟩, false, 11⟩, ⟨.blank, false, 0⟩, ⟨.spaces, false, 2⟩, ⟨.comment, false, 1048576⟩] ++
      getEvent (wfNote t!"verif/n" [(t!"k", .int 7)]) 71680)).notes = [(t!"verif/n", .obj [(t!"k", .int 7)])] :=
  C07_resync_get ⟨none, true, .resync⟩ rfl [t!"verif/n"] {} rfl _ t!"verif/n" _ (by decide) 71680

/-- the GET-stream reader keeps no event type: an `event:` field — whatever it names, indented or not, followed by data or
    not — changes nothing, so a typed event without data (a keep-alive `event: ping` + blank line) cannot leak into the
    next frame -/
theorem C07_get_event_field_inert (F : Facts) (hF : F.getLimit = none) (H : List Text) (st : GetSt) (name : Text) (ind : Bool)
    (n : Nat) : getStep F H st ⟨.event name, ind, n⟩ = st := by
  simp [getStep, hF, tooLong]

/-- keep-alive events without data, `id:` / `retry:` fields alone, an event of another type WITH data, runs of blank lines:
    the notification behind them is delivered (instance of `C07_resync_get`; the event of type `ping` that carries a
    notification is delivered as well — the reader does not look at the type) -/
example : (getRun ⟨none, true, .resync⟩ [t!"verif/n"] {}
    ([eventLine t!"ping", blankLine, ⟨.id, false, 6⟩, ⟨.other, false, 11⟩, blankLine, blankLine,
      eventLine t!"ping", dataLine (wfNote t!"verif/n" [(t!"k", .int 1)]) 60, blankLine, eventLine t!"heartbeat", blankLine] ++
      getEvent (wfNote t!"verif/n" [(t!"k", .int 2)]) 60)).notes =
    [(t!"verif/n", .obj [(t!"k", .int 1)]), (t!"verif/n", .obj [(t!"k", .int 2)])] := rfl

/-! ## later calls of the Streamable client (`Last-Event-ID`) -/

private theorem postIdRun_append (req : Nat) (H : List Text) (p : PostSt × IdSt) (a b : List Line) :
    postIdRun req H p (a ++ b) = postIdRun req H (postIdRun req H p a) b := by
  simp [postIdRun, List.foldl_append]

/-- the id tracking rides on the POST-SSE reader: its first component IS the reader of the other theorems -/
theorem C07_post_id_run_fst (req : Nat) (H : List Text) (ls : List Line) (p : PostSt × IdSt) :
    (postIdRun req H p ls).1 = postRun req H p.1 ls :=
  (List.foldl_hom Prod.fst fun _ _ => rfl).symm

theorem C07_get_id_run_fst (F : Facts) (H : List Text) (ls : List Line) (p : GetSt × IdSt) :
    (getIdRun F H p ls).1 = getRun F H p.1 ls :=
  (List.foldl_hom Prod.fst fun _ _ => rfl).symm

/-- full statement, good region (the code stores / sends only ids that are valid header field values — regenerated fact
    `Mcp.Gen.rdIdChecked`, true today: `C07_fact_id_checked`): whatever the server wrote on the call's stream or on the GET stream, a
    later request of the client can be sent. -/
theorem C07_later_call_streamable (req : Nat) (F : Facts) (H : List Text) (ls : List Line) (p : PostSt × IdSt) (q : GetSt × IdSt) :
    laterCallOk true (postIdRun req H p ls).2 = true ∧ laterCallOk true (getIdRun F H q ls).2 = true := by
  simp [laterCallOk]

private theorem postIdStep_safe (req : Nat) (H : List Text) (p : PostSt × IdSt) (l : Line) (hl : idSafeLine l = true)
    (h : p.2.last = true) : (postIdStep req H p l).2.last = true := by
  unfold postIdStep
  simp only
  split
  · exact h
  · cases hk : l.kind <;> simp [idOfKind, h, idSafeLine, hk] at hl ⊢

private theorem getIdStep_safe (F : Facts) (H : List Text) (p : GetSt × IdSt) (l : Line) (hl : idSafeLine l = true)
    (h : p.2.ev = true ∧ p.2.last = true) : (getIdStep F H p l).2.ev = true ∧ (getIdStep F H p l).2.last = true := by
  unfold getIdStep
  dsimp only
  split
  · exact h
  · split
    · split
      · exact ⟨rfl, h.1⟩
      · exact h
    · exact ⟨rfl, rfl⟩
    · rename_i hk _
      rw [idSafeLine, hk] at hl
      exact nomatch hl
    · exact h

/-- partial statement, EVERY region (the code as it is today included): as long as no `id:` line carries a value that is
    not a valid header field value, later requests of the client can be sent — whatever else the streams contain. -/
theorem C07_later_call_streamable_partial (chk : Bool) (req : Nat) (F : Facts) (H : List Text) (ls : List Line)
    (hls : ∀ l ∈ ls, idSafeLine l = true) (p : PostSt × IdSt) (hp : p.2.last = true)
    (q : GetSt × IdSt) (hq : q.2.ev = true ∧ q.2.last = true) :
    laterCallOk chk (postIdRun req H p ls).2 = true ∧ laterCallOk chk (getIdRun F H q ls).2 = true := by
  have hpost : (postIdRun req H p ls).2.last = true :=
    List.foldlRecOn (motive := fun s : PostSt × IdSt => s.2.last = true) ls _ hp fun s hs l hl =>
      postIdStep_safe req H s l (hls l hl) hs
  have hget : (getIdRun F H q ls).2.ev = true ∧ (getIdRun F H q ls).2.last = true :=
    List.foldlRecOn (motive := fun s : GetSt × IdSt => s.2.ev = true ∧ s.2.last = true) ls _ hq fun s hs l hl =>
      getIdStep_safe F H s l (hls l hl) hs
  simp [laterCallOk, hpost, hget.2]

/-- witness for the bad region (ids stored unchecked — the code before the repair of D33): ONE `id:` line with a control character in front of the
    well-formed answer (POST-SSE), or on the last event of the GET stream — the call itself is answered, the notification is
    delivered, and the next request of the client cannot be sent. -/
theorem C07_later_call_streamable_counterexample (req : Nat) (r : Json) (F : Facts) (hF : F.getLimit = none) :
    (postFinish (postIdRun req [] ({}, {}) [⟨.idUnsafe, false, 8⟩, dataLine (wfResult req r) 0, blankLine]).1 .eof).isOk = true ∧
    laterCallOk false (postIdRun req [] ({}, {}) [⟨.idUnsafe, false, 8⟩, dataLine (wfResult req r) 0, blankLine]).2 = false ∧
    (getIdRun F [t!"verif/n"] ({}, {}) (⟨.idUnsafe, false, 8⟩ :: getEvent (wfNote t!"verif/n" []) 60)).1.notes = [(t!"verif/n", .obj [])] ∧
    laterCallOk false (getIdRun F [t!"verif/n"] ({}, {}) (⟨.idUnsafe, false, 8⟩ :: getEvent (wfNote t!"verif/n" []) 60)).2 = false := by
  simp [postIdRun, postIdStep, postStep, dataLine, blankLine, postData_result, postReceived, postFinish, CallOut.isOk, idOfKind,
    laterCallOk, getIdRun, getIdStep, getStep, getEvent, hF, tooLong, payloadOf_nonEmpty, getDispatch_note]

/-- on the GET stream the damage ends with the next event that carries another (or no) id: dispatching an event stores ITS id -/
example : laterCallOk false (getIdRun ⟨none, true, .resync⟩ [t!"verif/n"] ({}, {})
    ([⟨.idUnsafe, false, 8⟩] ++ getEvent (wfNote t!"verif/n" []) 60 ++ getEvent (wfNote t!"verif/n" []) 60)).2 = true := rfl

/-! ## pending tables -/

private theorem deliver_other {t : Table} {sel : Nat → Bool} {o : CallOut} {k : Nat} (h : k ∈ t.pending → sel k = false) :
    (t.deliver sel o).got k = t.got k := by
  by_cases hk : k ∈ t.pending <;> simp [Table.deliver, hk, h]

private theorem deliver_sel {t : Table} {sel : Nat → Bool} {o : CallOut} {c : Nat} (hp : c ∈ t.pending) (h : sel c = true)
    (hg : t.got c = none) : (t.deliver sel o).got c = some o := by
  simp [Table.deliver, h, hp, hg]

private theorem deliver_congr {t1 t2 : Table} (sel : Nat → Bool) (o : CallOut) {c : Nat} (hp : t1.pending = t2.pending)
    (hg : t1.got c = t2.got c) : (t1.deliver sel o).got c = (t2.deliver sel o).got c := by
  simp [Table.deliver, hp, hg]

/-- "no delivery" is a delivery too: this lets every handler be described as ONE `deliver` -/
private theorem deliver_nobody (t : Table) (o : CallOut) : t.deliver (fun _ => false) o = t := by
  simp [Table.deliver]

/-! ## 4. legacy SSE -/

private theorem _root_.Mcp.Readers.LegSim.halt {c : Nat} {s1 s2 : LegSt} (h : LegSim c s1 s2) : s1.halt = s2.halt := h.1

private theorem _root_.Mcp.Readers.LegSim.got {c : Nat} {s1 s2 : LegSt} (h : LegSim c s1 s2) : s1.tbl.got c = s2.tbl.got c :=
  h.2.2.2.2.2

/-- `sel` and `o` are chosen before `st`: two readers handed the same payload deliver alike (`legMessage_sim`) -/
private theorem legMessage_eq (p : Payload) : ∃ sel o, (∀ c, legAddressed c p = false → sel c = false) ∧
    ∀ st, ∃ as, legMessage st p = { st with tbl := st.tbl.deliver sel o, answers := as } := by
  unfold legMessage legAddressed
  split
  · rename_i m _
    by_cases hreq : (hasKey m t!"id" && hasKey m t!"method") = true
    · refine ⟨fun _ => false, .rpcError, fun _ _ => rfl, fun st => ?_⟩
      rw [if_pos hreq, deliver_nobody]
      split <;> exact ⟨_, rfl⟩
    · by_cases hid : hasKey m t!"id" = true
      · refine ⟨fun k => idMatches k (idOf m), outOfResponse m, fun c hc => by simpa [hid] using hc, fun st => ⟨st.answers, ?_⟩⟩
        rw [if_neg hreq, if_pos hid]
      · refine ⟨fun _ => false, .rpcError, fun _ _ => rfl, fun st => ⟨st.answers, ?_⟩⟩
        rw [if_neg hreq, if_neg hid, deliver_nobody]
  · exact ⟨fun _ => false, .rpcError, fun _ _ => rfl, fun st => ⟨st.answers, by rw [deliver_nobody]⟩⟩

private theorem legEndpoint_eq (F : Facts) (st : LegSt) (p : Payload) : legEndpoint F st p =
    { st with halt := if p.urlOk && st.latch && !F.latchGuarded then some .panic else st.halt,
              latch := st.latch || p.urlOk } := by
  obtain ⟨halt, etype, data, latch, tbl, an⟩ := st
  cases hu : p.urlOk <;> cases latch <;> cases hg : F.latchGuarded <;> simp [legEndpoint, hu, hg]

private theorem legDispatch_eq (F : Facts) (st : LegSt) (ty : Text) (p : Payload) : ∃ h la sel o as,
    legDispatch F st ty p = { st with halt := h, latch := la, tbl := st.tbl.deliver sel o, answers := as } ∧
    (F.latchGuarded = true ∨ ty ≠ t!"endpoint" → h = st.halt) ∧ (ty ≠ t!"endpoint" → la = st.latch) ∧
    ∀ c, legAddressed c p = false → sel c = false := by
  unfold legDispatch
  split
  · rename_i he
    refine ⟨_, _, fun _ => false, .rpcError, st.answers, by rw [legEndpoint_eq, deliver_nobody], ?_, fun hne => absurd he hne,
      fun _ _ => rfl⟩
    rintro (hg | hne)
    · simp [hg]
    · exact absurd he hne
  · split
    · obtain ⟨sel, o, hsel, hm⟩ := legMessage_eq p
      obtain ⟨as, e⟩ := hm st
      exact ⟨st.halt, st.latch, sel, o, as, e, fun _ => rfl, fun _ => rfl, hsel⟩
    · exact ⟨st.halt, st.latch, fun _ => false, .rpcError, st.answers, by rw [deliver_nobody], fun _ => rfl, fun _ => rfl,
        fun _ _ => rfl⟩

private theorem legStep_cases (F : Facts) (st : LegSt) (l : Line) :
    legStep F st l = st ∨
    (∃ name, l.kind = .event name ∧ legStep F st l = { st with etype := name }) ∨
    (∃ p, l.kind = .data p ∧ legStep F st l = { st with data := if p.nonEmpty then some p else none }) ∨
    (∃ p, st.data = some p ∧ legStep F st l = legDispatch F { st with etype := [], data := none } st.etype p) := by
  -- splitting one copy of the step (`r`) instead of the four in the goal
  generalize hr : legStep F st l = r
  unfold legStep at hr
  split at hr
  · exact .inl hr.symm
  · split at hr
    · split at hr
      · exact .inl hr.symm
      · split at hr
        · exact .inr (.inr (.inr ⟨_, ‹_›, hr.symm⟩))
        · exact .inl hr.symm
    · exact .inr (.inl ⟨_, ‹_›, hr.symm⟩)
    · exact .inr (.inr (.inl ⟨_, ‹_›, hr.symm⟩))
    · exact .inl hr.symm

private theorem legRun_append (F : Facts) (st : LegSt) (a b : List Line) :
    legRun F st (a ++ b) = legRun F (legRun F st a) b := List.foldl_append ..

private theorem legStep_alive {F : Facts} {st : LegSt} (l : Line) (hs : st.halt = none)
    (h : F.latchGuarded = true ∨ st.etype ≠ t!"endpoint") : (legStep F st l).halt = none := by
  rcases legStep_cases F st l with e | ⟨_, _, e⟩ | ⟨_, _, e⟩ | ⟨p, _, e⟩ <;> rw [e]
  · exact hs
  · exact hs
  · exact hs
  · obtain ⟨_, _, _, _, _, e, hh, _⟩ := legDispatch_eq F { st with etype := [], data := none } st.etype p
    rw [e]
    exact (hh h).trans hs

/-- full statement, good region (the latch is closed under a guard): NO stream — repeated, missing, malformed endpoint events
    included — makes the legacy SSE reader panic; it has no way to spin or stop either. -/
theorem C07_total_legacy (F : Facts) (hF : F.latchGuarded = true) (ls : List Line) (st : LegSt) (hs : st.halt = none) :
    (legRun F st ls).halt = none :=
  List.foldlRecOn (motive := fun s : LegSt => s.halt = none) ls _ hs fun _ hs l _ => legStep_alive l hs (.inl hF)

private theorem legStep_no_endpoint (F : Facts) {st : LegSt} {l : Line} (hn : l.namesEndpoint = false)
    (he : st.etype ≠ t!"endpoint") : (legStep F st l).etype ≠ t!"endpoint" ∧ (legStep F st l).latch = st.latch := by
  rcases legStep_cases F st l with e | ⟨name, hk, e⟩ | ⟨_, _, e⟩ | ⟨p, _, e⟩ <;> rw [e]
  · exact ⟨he, rfl⟩
  · exact ⟨by simpa [Line.namesEndpoint, hk] using hn, rfl⟩
  · exact ⟨he, rfl⟩
  · obtain ⟨_, _, _, _, _, e, _, hla, _⟩ := legDispatch_eq F { st with etype := [], data := none } st.etype p
    rw [e]
    exact ⟨nofun, hla he⟩

/-- witness for the bad region (an unguarded latch, D15): two endpoint events — `close` of the closed `endpointChan` panics in the
    reader goroutine, nothing recovers it, the process dies. -/
theorem C07_total_legacy_counterexample (F : Facts) (hF : F.latchGuarded = false) (ids : List Nat) :
    (legRun F { tbl := Table.init ids }
      ([eventLine t!"endpoint", ⟨.data ⟨true, none, true⟩, false, 14⟩, blankLine] ++
       [eventLine t!"endpoint", ⟨.data ⟨true, none, true⟩, false, 14⟩, blankLine])).halt = some .panic := by
  simp [legRun, legStep, eventLine, blankLine, legDispatch, legEndpoint, hF]

/-- a server request that arrives while no endpoint is known (before the endpoint event, or on a stream that never announces
    a usable one) is dropped: nothing is sent, nothing panics, the state is unchanged (`sendResponseMessage`'s
    `t.endpoint == nil` guard) -/
theorem C07_request_before_endpoint (st : LegSt) (p : Payload) (m : Obj) (hp : p.json = some (.obj m))
    (hid : hasKey m t!"id" = true) (hm : hasKey m t!"method" = true) (hl : st.latch = false) : legMessage st p = st := by
  simp [legMessage, hp, hid, hm, hl]

/-- a `roots/list` request, then the endpoint event, then the same request again: the reader lives, the latch closes, only
    the second request is answered -/
example : let req := Json.obj [(t!"jsonrpc", .str t!"2.0"), (t!"id", .int 501), (t!"method", .str t!"roots/list")]
    let st := legRun ⟨none, true, .resync⟩ { tbl := Table.init [1] }
      (legEvent req 50 ++ [eventLine t!"endpoint", ⟨.data ⟨true, none, true⟩, false, 14⟩, blankLine] ++ legEvent req 50)
    st.halt = none ∧ st.latch = true ∧ st.answers = [(.int 501, true)] := ⟨rfl, rfl, rfl⟩

/-- a missing endpoint event is not a crash either: the latch simply stays open (the handshake then ends with the caller's
    deadline) -/
theorem C07_missing_endpoint_no_latch (F : Facts) (ls : List Line) (hls : ∀ l ∈ ls, l.namesEndpoint = false) (st : LegSt)
    (hl : st.latch = false) (he : st.etype ≠ t!"endpoint") : (legRun F st ls).latch = false :=
  (List.foldlRecOn (motive := fun s : LegSt => s.etype ≠ t!"endpoint" ∧ s.latch = false) ls _ ⟨he, hl⟩ fun _ hs l hmem =>
    have h := legStep_no_endpoint F (hls l hmem) hs.1
    ⟨h.1, h.2.trans hs.2⟩).2

/-- call `c` is waiting, and neither what the reader holds in `eventData` nor the event type it remembers can change that -/
private def LegWaiting (F : Facts) (c : Nat) (st : LegSt) : Prop :=
  st.halt = none ∧ c ∈ st.tbl.pending ∧ st.tbl.got c = none ∧ legDataNotFor c st.data = true ∧
    (F.latchGuarded = true ∨ st.etype ≠ t!"endpoint")

private theorem legStep_waiting {F : Facts} {c : Nat} {st : LegSt} {l : Line} (hl : legLineAddressed c l = false)
    (hn : F.latchGuarded = true ∨ l.namesEndpoint = false) (h : LegWaiting F c st) : LegWaiting F c (legStep F st l) := by
  obtain ⟨h1, h2, h3, h4, h5⟩ := h
  refine ⟨legStep_alive l h1 h5, ?_⟩
  rcases legStep_cases F st l with e | ⟨name, hk, e⟩ | ⟨p, hk, e⟩ | ⟨p, hd, e⟩ <;> rw [e]
  · exact ⟨h2, h3, h4, h5⟩
  · exact ⟨h2, h3, h4, hn.imp_right fun hn => by simpa [Line.namesEndpoint, hk] using hn⟩
  · refine ⟨h2, h3, ?_, h5⟩
    have : legAddressed c p = false := by simpa [legLineAddressed, hk] using hl
    split <;> simp [legDataNotFor, this]
  · obtain ⟨_, _, sel, _, _, e, _, _, hsel⟩ := legDispatch_eq F { st with etype := [], data := none } st.etype p
    have : legAddressed c p = false := by simpa [legDataNotFor, hd] using h4
    rw [e]
    exact ⟨h2, (deliver_other fun _ => hsel c this).trans h3, rfl, .inr nofun⟩

private theorem legRun_event (F : Facts) {st : LegSt} (hs : st.halt = none) {p : Payload} (hp : p.nonEmpty = true) (size : Nat) :
    legRun F st (legEventP p size) = legMessage { st with etype := [], data := none } p := by
  simp [legRun, legEventP, legStep, hs, eventLine, blankLine, hp, legDispatch]

private theorem leg_answer {F : Facts} {st : LegSt} {c : Nat} {r : Json} {n : Nat} (h1 : st.halt = none)
    (h2 : c ∈ st.tbl.pending) (h3 : st.tbl.got c = none) :
    (legRun F st (legEvent (wfResult c r) n)).tbl.got c = some (.ok r) := by
  rw [show legEvent (wfResult c r) n = legEventP (payloadOf (wfResult c r)) n from rfl, legRun_event F h1 (payloadOf_nonEmpty _) n,
    legMessage_result]
  exact deliver_sel h2 (idMatches_self c) h3

/-- resync in every region: unless the latch is guarded, the garbage must not name the `endpoint` event -/
private theorem leg_resync_general {F : Facts} {st : LegSt} {c : Nat} (h : LegWaiting F c st) (g : List Line)
    (hg : ∀ l ∈ g, legLineAddressed c l = false ∧ (F.latchGuarded = true ∨ l.namesEndpoint = false)) (r : Json) (n : Nat) :
    (legRun F st (g ++ legEvent (wfResult c r) n)).tbl.got c = some (.ok r) := by
  obtain ⟨i1, i2, i3, _⟩ := List.foldlRecOn (motive := LegWaiting F c) g (legStep F) h fun s hs l hl =>
    legStep_waiting (hg l hl).1 (hg l hl).2 hs
  rw [legRun_append]
  exact leg_answer i1 i2 i3

/-- resync, legacy SSE, full statement, good region (today): complete garbage lines — comments, unknown fields, half events,
    events of unknown types, repeated / malformed endpoint events, frames for other calls, unknown and wrongly typed ids,
    1 MiB lines — before the well-formed answer to the pending call `c` never prevent `c` from completing with that answer. -/
theorem C07_resync_legacy (F : Facts) (hF : F.latchGuarded = true) (st : LegSt) (c : Nat) (h1 : st.halt = none)
    (h2 : c ∈ st.tbl.pending) (h3 : st.tbl.got c = none) (h4 : legDataNotFor c st.data = true) (g : List Line)
    (hg : ∀ l ∈ g, legLineAddressed c l = false) (r : Json) (n : Nat) :
    (legRun F st (g ++ legEvent (wfResult c r) n)).tbl.got c = some (.ok r) :=
  leg_resync_general ⟨h1, h2, h3, h4, .inl hF⟩ g (fun l hl => ⟨hg l hl, .inl hF⟩) r n

/-- a later call on the same client completes whenever the reader is still alive (whatever half event it is holding) -/
theorem C07_later_call_legacy (F : Facts) (st : LegSt) (h : st.halt = none) (n : Nat) (r : Json) (size : Nat) :
    (legRun F { st with tbl := Table.init [n] } (legEvent (wfResult n r) size)).tbl.got n = some (.ok r) :=
  leg_answer h (by simp [Table.init]) rfl

/-- handshake histories, legacy SSE (good region — today): whatever content the `message` events answering the first
    initialize requests have (a result of the wrong shape, a JSON-RPC error, an `error` member of the wrong type, no result:
    the model's reader does not look at it, the client's Initialize then fails and — today — only resets the client state),
    the reader is alive afterwards and the properly answered retry (request id `n`) gets its answer. -/
theorem C07_handshake_retry_legacy (F : Facts) (hF : F.latchGuarded = true) (st : LegSt) (h : st.halt = none)
    (bad : List Line) (n : Nat) (r : Json) (size : Nat) :
    (legRun F { legRun F st bad with tbl := Table.init [n] } (legEvent (wfResult n r) size)).tbl.got n = some (.ok r) :=
  C07_later_call_legacy F _ (C07_total_legacy F hF bad st h) n r size

private theorem legMessage_hidden (st : LegSt) {p : Payload} {c : Nat} (h : c ∈ st.tbl.pending → legAddressed c p = false) :
    LegSim c (legMessage st p) st := by
  obtain ⟨sel, o, hsel, hm⟩ := legMessage_eq p
  obtain ⟨_, e⟩ := hm st
  rw [e]
  exact ⟨rfl, rfl, rfl, rfl, rfl, deliver_other fun hc => hsel c (h hc)⟩

private theorem legMessage_sim {c : Nat} (p : Payload) {s1 s2 : LegSt} (h : LegSim c s1 s2) :
    LegSim c (legMessage s1 p) (legMessage s2 p) := by
  obtain ⟨sel, o, _, hm⟩ := legMessage_eq p
  obtain ⟨_, e1⟩ := hm s1
  obtain ⟨_, e2⟩ := hm s2
  obtain ⟨h1, h2, h3, h4, h5, h6⟩ := h
  rw [e1, e2]
  exact ⟨h1, h2, h3, h4, h5, deliver_congr sel o h5 h6⟩

private theorem legStep_sim {F : Facts} {c : Nat} {s1 s2 : LegSt} {l : Line} (h : LegSim c s1 s2) :
    LegSim c (legStep F s1 l) (legStep F s2 l) := by
  obtain ⟨halt, etype, data, latch, ⟨pend, got1⟩, an1⟩ := s1
  obtain ⟨_, _, _, _, ⟨_, got2⟩, an2⟩ := s2
  obtain ⟨rfl, rfl, rfl, rfl, rfl, h6⟩ := h
  have same : ∀ h e d la, LegSim c ⟨h, e, d, la, ⟨pend, got1⟩, an1⟩ ⟨h, e, d, la, ⟨pend, got2⟩, an2⟩ :=
    fun _ _ _ _ => ⟨rfl, rfl, rfl, rfl, rfl, h6⟩
  -- the branches are chosen by fields the two states share: every `split` takes both steps the same way
  unfold legStep
  dsimp only
  split
  · exact same ..
  · split
    · split
      · exact same ..
      · split
        · unfold legDispatch
          split
          · rw [legEndpoint_eq, legEndpoint_eq]
            exact same ..
          · split
            · exact legMessage_sim _ (same ..)
            · exact same ..
        · exact same ..
    · exact same ..
    · exact same ..
    · exact same ..

private theorem legRun_sim (F : Facts) {c : Nat} (ls : List Line) {s1 s2 : LegSt} (h : LegSim c s1 s2) :
    LegSim c (legRun F s1 ls) (legRun F s2 ls) :=
  List.foldl_rel (r := LegSim c) h fun _ _ _ _ h => legStep_sim h

/-- isolation, legacy SSE (every region): ANY `message` event — a malformed answer to another call, an error, a request, a
    frame for an unknown id — that is not addressed to call `c`, inserted at an event boundary anywhere in the stream, does not
    change `c`'s outcome. -/
theorem C07_isolation_legacy (F : Facts) (st : LegSt) (c : Nat) (p : Payload) (hp : p.nonEmpty = true)
    (hc : legAddressed c p = false) (pre post : List Line) (size : Nat)
    (hb : (legRun F st pre).etype = [] ∧ (legRun F st pre).data = none) :
    (legRun F st (pre ++ legEventP p size ++ post)).tbl.got c = (legRun F st (pre ++ post)).tbl.got c := by
  rw [List.append_assoc, legRun_append, legRun_append F st pre post, legRun_append]
  generalize legRun F st pre = s at hb
  refine (legRun_sim F post (s2 := s) ?_).got
  cases hh : s.halt with
  | some _ =>
    rw [show legRun F s (legEventP p size) = s by simp [legRun, legEventP, legStep, hh]]
    exact ⟨rfl, rfl, rfl, rfl, rfl, rfl⟩
  | none =>
    rw [legRun_event F hh hp, show ({ s with etype := [], data := none } : LegSt) = s by rw [← hb.1, ← hb.2]]
    exact legMessage_hidden s fun _ => hc

/-- unknown ids, ids of the wrong type, legacy SSE: a `message` payload that selects no registered call changes no call's
    outcome (and cannot stop the reader). -/
theorem C07_unknown_id_harmless_legacy (st : LegSt) (p : Payload)
    (hp : ∀ k ∈ st.tbl.pending, legAddressed k p = false) (k : Nat) :
    (legMessage st p).tbl.got k = st.tbl.got k ∧ (legMessage st p).halt = st.halt := by
  have h := legMessage_hidden st (hp k)
  exact ⟨h.got, h.halt⟩

example : (legRun ⟨none, true, .resync⟩ { tbl := Table.init [2, 3], latch := true }
    ([⟨.comment, false, 1048576⟩, eventLine t!"endpoint", ⟨.data ⟨true, none, true⟩, false, 14⟩, blankLine,
      eventLine t!"message", ⟨.data ⟨true, none, false⟩, false, 11⟩, blankLine,
      eventLine t!"ping", dataLine (wfResult 9001 (.obj [])) 50, blankLine, dataLine (wfResult 9000 (.obj [])) 50, blankLine,
      eventLine t!"message", dataLine (wfResult 3 (.obj [])) 50, blankLine, eventLine t!"message"] ++
      legEvent (wfResult 2 (.obj [(t!"nextCursor", .str t!"a")])) 70)).tbl.got 2 = some (.ok (.obj [(t!"nextCursor", .str t!"a")])) :=
  C07_resync_legacy _ rfl _ 2 rfl (by simp [Table.init]) rfl rfl _ (by decide) _ _

/-! ## 5. stdio -/

private theorem _root_.Mcp.Readers.StdioSim.halt {c : Nat} {s1 s2 : StdioSt} (h : StdioSim c s1 s2) : s1.halt = s2.halt := h.1

private theorem _root_.Mcp.Readers.StdioSim.got {c : Nat} {s1 s2 : StdioSt} (h : StdioSim c s1 s2) :
    s1.tbl.got c = s2.tbl.got c := h.2.2.2

private theorem msgType_obj {v : Json} {ty : MsgType} {m : Obj} (hm : msgType v = some (ty, m)) : v = .obj m := by
  cases v with
  | obj _ =>
    rw [msgType] at hm
    (repeat' split at hm) <;> cases hm <;> rfl
  | _ => exact nomatch hm

/-- `sel` and `o` are chosen before `st`, as in `legMessage_eq` -/
private theorem stdioValue_eq (H : List Text) (v : Json) : ∃ sel o, (∀ c, valueAddressed c v = false → sel c = false) ∧
    ∀ st, ∃ ns as, stdioValue H st v = { st with tbl := st.tbl.deliver sel o, notes := ns, answers := as } := by
  unfold stdioValue
  split
  · exact ⟨fun _ => false, .rpcError, fun _ _ => rfl, fun st => ⟨_, _, by rw [deliver_nobody]⟩⟩
  · rename_i m hm
    cases msgType_obj hm
    exact ⟨fun k => keyIs k (idOf m), _, fun _ h => h, fun st => ⟨_, _, rfl⟩⟩
  · rename_i m hm
    cases msgType_obj hm
    by_cases he : errDecodes m = true
    · exact ⟨fun k => keyIs k (idOf m), .rpcError, fun _ h => h, fun st => ⟨_, _, by rw [if_pos he]⟩⟩
    · exact ⟨fun _ => false, .rpcError, fun _ _ => rfl, fun st => ⟨_, _, by rw [if_neg he, deliver_nobody]⟩⟩
  · exact ⟨fun _ => false, .rpcError, fun _ _ => rfl, fun st => by rw [deliver_nobody]; split <;> exact ⟨_, _, rfl⟩⟩
  · exact ⟨fun _ => false, .rpcError, fun _ _ => rfl, fun st => by rw [deliver_nobody]; split <;> exact ⟨_, _, rfl⟩⟩

private theorem stdioValues_frame (H : List Text) (vs : List Json) (st : StdioSt) :
    (vs.foldl (stdioValue H) st).halt = st.halt ∧ (vs.foldl (stdioValue H) st).closed = st.closed ∧
      (vs.foldl (stdioValue H) st).tbl.pending = st.tbl.pending :=
  List.foldlRecOn (motive := fun s : StdioSt => s.halt = st.halt ∧ s.closed = st.closed ∧ s.tbl.pending = st.tbl.pending)
    vs _ ⟨rfl, rfl, rfl⟩ fun s hs v _ => by
      obtain ⟨_, _, _, h⟩ := stdioValue_eq H v
      obtain ⟨_, _, e⟩ := h s
      rw [e]
      exact hs

private theorem stdioValues_sim (H : List Text) {c : Nat} (vs : List Json) {s1 s2 : StdioSt} (h : StdioSim c s1 s2) :
    StdioSim c (vs.foldl (stdioValue H) s1) (vs.foldl (stdioValue H) s2) := by
  refine List.foldl_rel (r := StdioSim c) h fun v _ s1 s2 h => ?_
  obtain ⟨sel, o, _, hv⟩ := stdioValue_eq H v
  obtain ⟨_, _, e1⟩ := hv s1
  obtain ⟨_, _, e2⟩ := hv s2
  obtain ⟨h1, h2, h3, h4⟩ := h
  rw [e1, e2]
  exact ⟨h1, h2, h3, deliver_congr sel o h3 h4⟩

private theorem stdioRun_append (F : Facts) (H : List Text) (st : StdioSt) (a b : List Frame) :
    stdioRun F H st (a ++ b) = stdioRun F H (stdioRun F H st a) b := List.foldl_append ..

private theorem stdioStep_line {F : Facts} (hF : F.stdioOnError = .resync) {H : List Text} {st : StdioSt} {f : Frame}
    (hs : st.halt = none) : stdioStep F H st f = stdioLineStep H st f := by
  simp [stdioStep, hs, hF]

private theorem stdioStep_value {F : Facts} {H : List Text} {st : StdioSt} {v : Json} (hs : st.halt = none) :
    stdioStep F H st (.value v) = stdioValue H st v := by
  unfold stdioStep
  rw [hs]
  cases F.stdioOnError <;> rfl

private theorem stdioStep_dead {F : Facts} {H : List Text} {st : StdioSt} {f : Frame} {h : Halt} (hs : st.halt = some h) :
    stdioStep F H st f = st := by
  simp [stdioStep, hs]

private theorem stdioStep_value_hidden {F : Facts} {H : List Text} {st : StdioSt} {v : Json} {c : Nat}
    (h : c ∈ st.tbl.pending → valueAddressed c v = false) : StdioSim c (stdioStep F H st (.value v)) st := by
  cases hh : st.halt with
  | some _ =>
    rw [stdioStep_dead hh]
    exact ⟨rfl, rfl, rfl, rfl⟩
  | none =>
    obtain ⟨sel, o, hsel, hv⟩ := stdioValue_eq H v
    obtain ⟨_, _, e⟩ := hv st
    rw [stdioStep_value hh, e]
    exact ⟨rfl, rfl, rfl, deliver_other fun hc => hsel c (h hc)⟩

/-- every region: what a frame does to a live reader is decided by the frame alone — some values are handed on one by
    one, or (only bytes that are no JSON at all, and only in a decoder loop) the loop ends -/
private theorem stdioStep_cases (F : Facts) (H : List Text) (f : Frame) :
    (∃ vs : List Json, ∀ st, st.halt = none → stdioStep F H st f = vs.foldl (stdioValue H) st) ∨
    (F.stdioOnError ≠ .resync ∧ f.junk = true ∧
      ∃ h, ∀ st, st.halt = none → stdioStep F H st f = { st with halt := some h }) := by
  by_cases hF : F.stdioOnError = .resync
  · refine .inl ?_
    cases f with
    | value v => exact ⟨[v], fun _ hs => stdioStep_line hF hs⟩
    | _ => exact ⟨[], fun _ hs => stdioStep_line hF hs⟩
  · have dec : ∀ st : StdioSt, st.halt = none → stdioStep F H st f = stdioDecoderStep F.stdioOnError H st f := by
      intro st hs
      unfold stdioStep
      rw [hs]
      cases he : F.stdioOnError with
      | resync => exact absurd he hF
      | _ => rfl
    cases f with
    | ws => exact .inl ⟨[], dec⟩
    | value v => exact .inl ⟨[v], dec⟩
    | spread v => exact .inl ⟨[v], dec⟩
    | packed vs => exact .inl ⟨vs, dec⟩
    | garbage => exact .inr ⟨hF, rfl, _, dec⟩
    | truncated => exact .inr ⟨hF, rfl, _, dec⟩

private theorem stdioStep_sim {F : Facts} {H : List Text} {c : Nat} {s1 s2 : StdioSt} {f : Frame} (h : StdioSim c s1 s2) :
    StdioSim c (stdioStep F H s1 f) (stdioStep F H s2 f) := by
  cases hh : s1.halt with
  | some _ => rwa [stdioStep_dead hh, stdioStep_dead (h.halt ▸ hh)]
  | none =>
    rcases stdioStep_cases F H f with ⟨vs, e⟩ | ⟨_, _, _, e⟩ <;> rw [e s1 hh, e s2 (h.halt ▸ hh)]
    · exact stdioValues_sim H vs h
    · exact ⟨rfl, h.2⟩

private theorem stdioRun_sim (F : Facts) (H : List Text) {c : Nat} (fs : List Frame) {s1 s2 : StdioSt} (h : StdioSim c s1 s2) :
    StdioSim c (stdioRun F H s1 fs) (stdioRun F H s2 fs) :=
  List.foldl_rel (r := StdioSim c) h fun _ _ _ _ h => stdioStep_sim h

private theorem stdioStep_alive {F : Facts} {H : List Text} {st : StdioSt} {f : Frame} (hs : st.halt = none)
    (hf : F.stdioOnError = .resync ∨ f.junk = false) : (stdioStep F H st f).halt = none := by
  rcases stdioStep_cases F H f with ⟨vs, e⟩ | ⟨hF, hj, _⟩
  · rw [e st hs]
    exact (stdioValues_frame H vs st).1.trans hs
  · exact absurd hf (by simp [hF, hj])

/-- full statement, good region (the line reader — today): NO stdout content — non-JSON lines, output that ends inside a
    value, values spread over several lines or sharing a line, values of any JSON type — makes the stdio reader panic, spin
    or stop. -/
theorem C07_total_stdio (F : Facts) (hF : F.stdioOnError = .resync) (H : List Text) (fs : List Frame) (st : StdioSt)
    (hs : st.halt = none) : (stdioRun F H st fs).halt = none :=
  List.foldlRecOn (motive := fun s : StdioSt => s.halt = none) fs _ hs fun _ hs _ _ => stdioStep_alive hs (.inl hF)

/-- witness for the bad region `spin` (the decoder loop that `continue`s, D16): one non-JSON line, then the well-formed answer
    to the pending call 2 — the read loop spins (until Close), the answer is never delivered. -/
theorem C07_total_stdio_counterexample (F : Facts) (hF : F.stdioOnError = .spin) (H : List Text) (r : Json) :
    (stdioRun F H { tbl := Table.init [2] } [.garbage, .value (wfResult 2 r)]).halt = some .spin ∧
    (stdioRun F H { tbl := Table.init [2] } [.garbage, .value (wfResult 2 r)]).spinning = true ∧
    (stdioRun F H { tbl := Table.init [2] } [.garbage, .value (wfResult 2 r)]).tbl.got 2 = none := by
  simp [stdioRun, stdioStep, stdioDecoderStep, hF, StdioSt.spinning, Table.init]

/-- witness for the bad region `stop`: a decoder loop that merely leaves on the first error does not spin but is just as deaf -/
theorem C07_resync_stdio_stop_counterexample (F : Facts) (hF : F.stdioOnError = .stop) (H : List Text) (r : Json) :
    (stdioRun F H { tbl := Table.init [2] } [.garbage, .value (wfResult 2 r)]).halt = some .dead ∧
    (stdioRun F H { tbl := Table.init [2] } [.garbage, .value (wfResult 2 r)]).tbl.got 2 = none := by
  simp [stdioRun, stdioStep, stdioDecoderStep, hF, Table.init]

/-- the line reader reads ONE value per line: a value printed over several lines, or sharing its line with another value, is
    skipped like any other line that is not a JSON value (the price of the repair; MCP's stdio framing asks for exactly one
    message per line) -/
theorem C07_stdio_one_value_per_line (F : Facts) (hF : F.stdioOnError = .resync) (H : List Text) (st : StdioSt) (v : Json)
    (vs : List Json) : stdioStep F H st (.spread v) = st ∧ stdioStep F H st (.packed vs) = st := by
  simp [stdioStep, hF, stdioLineStep]

/-- frames each invisible to `c` are invisible to `c` together (`hidden`), and the rest of the run cannot tell
    (`stdioRun_sim`) -/
private theorem stdio_isolation {F : Facts} {H : List Text} {c : Nat} (g : List Frame)
    (hg : ∀ f ∈ g, ∀ s, StdioSim c (stdioStep F H s f) s) (st : StdioSt) (pre post : List Frame) :
    (stdioRun F H st (pre ++ (g ++ post))).tbl.got c = (stdioRun F H st (pre ++ post)).tbl.got c := by
  have hidden : ∀ st, StdioSim c (stdioRun F H st g) st := fun st =>
    List.foldlRecOn (motive := fun s => StdioSim c s st) g _ ⟨rfl, rfl, rfl, rfl⟩ fun s hs f hf => by
      obtain ⟨a1, a2, a3, a4⟩ := hg f hf s
      obtain ⟨b1, b2, b3, b4⟩ := hs
      exact ⟨a1.trans b1, a2.trans b2, a3.trans b3, a4.trans b4⟩
  rw [stdioRun_append, stdioRun_append, stdioRun_append]
  exact (stdioRun_sim F H post (hidden _)).got

private theorem stdioStep_hidden {F : Facts} (hF : F.stdioOnError = .resync) {H : List Text} {c : Nat} {f : Frame}
    (hf : stdioAddressed c f = false) (s : StdioSt) : StdioSim c (stdioStep F H s f) s := by
  cases f with
  | value v => exact stdioStep_value_hidden fun _ => hf
  | _ => simp [stdioStep, hF, stdioLineStep, StdioSim]

/-- isolation, stdio, full statement, good region (today): ANY frame that is not addressed to call `c` — a non-JSON line, a
    malformed answer to another call, an error of the wrong shape, a frame of the wrong kind — placed anywhere in the stream
    does not change `c`'s outcome. -/
theorem C07_isolation_stdio (F : Facts) (hF : F.stdioOnError = .resync) (H : List Text) (st : StdioSt) (c : Nat) (f : Frame)
    (hf : stdioAddressed c f = false) (pre post : List Frame) :
    (stdioRun F H st (pre ++ f :: post)).tbl.got c = (stdioRun F H st (pre ++ post)).tbl.got c :=
  stdio_isolation [f] (List.forall_mem_singleton.mpr (stdioStep_hidden hF hf)) st pre post

/-- isolation, every region of the family: a JSON value on its own line that is not addressed to call `c` does not change
    `c`'s outcome (the decoder loops had this part of the property too). -/
theorem C07_isolation_stdio_value (F : Facts) (H : List Text) (st : StdioSt) (c : Nat) (v : Json)
    (hv : valueAddressed c v = false) (pre post : List Frame) :
    (stdioRun F H st (pre ++ .value v :: post)).tbl.got c = (stdioRun F H st (pre ++ post)).tbl.got c :=
  stdio_isolation [.value v] (List.forall_mem_singleton.mpr fun _ => stdioStep_value_hidden fun _ => hv) st pre post

/-- unknown ids, ids of the wrong type (every region): a JSON value whose id selects no registered call changes no call's
    outcome. -/
theorem C07_unknown_id_harmless_stdio (F : Facts) (H : List Text) (st : StdioSt) (v : Json)
    (hv : ∀ k ∈ st.tbl.pending, valueAddressed k v = false) (k : Nat) :
    (stdioStep F H st (.value v)).tbl.got k = st.tbl.got k :=
  (stdioStep_value_hidden (hv k)).got

/-- ids that are strings, null, booleans, arrays or objects select nobody; a fractional number is truncated (2.5 selects 2) -/
example : keyIs 2 (.str t!"2") = false ∧ keyIs 2 .null = false ∧ keyIs 2 (.bool true) = false ∧ keyIs 2 (.arr [.int 2]) = false ∧
    keyIs 2 (.obj []) = false ∧ keyIs 2 (.dec 25 1) = true ∧ keyIs 2 (.int (-2)) = false := by decide

private theorem stdio_answer {F : Facts} {H : List Text} {st : StdioSt} {c : Nat} {o : Obj} (h1 : st.halt = none)
    (h2 : c ∈ st.tbl.pending) (h3 : st.tbl.got c = none) :
    (stdioStep F H st (.value (wfResult c (.obj o)))).tbl.got c = some (.ok (.obj o)) := by
  rw [stdioStep_value h1, stdioValue_result]
  exact deliver_sel h2 (keyIs_self c) h3

/-- resync, stdio, full statement, good region (today): ANY lines — non-JSON lines, blank lines, truncated output, values
    spread over lines or packed on one line, frames of the wrong kind, unknown ids, ids of the wrong type, scalars, 1 MiB
    values, answers for other calls — before the well-formed answer to the pending call `c` never prevent `c` from completing
    with that answer. -/
theorem C07_resync_stdio (F : Facts) (hF : F.stdioOnError = .resync) (H : List Text) (st : StdioSt) (c : Nat)
    (h1 : st.halt = none) (h2 : c ∈ st.tbl.pending) (h3 : st.tbl.got c = none) (g : List Frame)
    (hg : ∀ f ∈ g, stdioAddressed c f = false) (o : Obj) :
    (stdioRun F H st (g ++ [.value (wfResult c (.obj o))])).tbl.got c = some (.ok (.obj o)) :=
  -- the garbage is isolated away, the answer is left
  (stdio_isolation g (fun f hf => stdioStep_hidden hF (hg f hf)) st [] _).trans (stdio_answer h1 h2 h3)

/-- a later call on the same client completes whenever the reader is still alive (every region) -/
theorem C07_later_call_stdio (F : Facts) (H : List Text) (st : StdioSt) (h : st.halt = none) (n : Nat) (o : Obj) :
    (stdioRun F H { st with tbl := Table.init [n] } [.value (wfResult n (.obj o))]).tbl.got n = some (.ok (.obj o)) :=
  stdio_answer h (by simp [Table.init]) rfl

/-- handshake histories, stdio (good region — today): whatever frames answered the first initialize requests, the properly
    answered retry gets its answer. -/
theorem C07_handshake_retry_stdio (F : Facts) (hF : F.stdioOnError = .resync) (H : List Text) (st : StdioSt) (h : st.halt = none)
    (bad : List Frame) (n : Nat) (o : Obj) :
    (stdioRun F H { stdioRun F H st bad with tbl := Table.init [n] } [.value (wfResult n (.obj o))]).tbl.got n = some (.ok (.obj o)) :=
  C07_later_call_stdio F H _ (C07_total_stdio F hF H bad st h) n o

private theorem stdio_burst (F : Facts) (H : List Text) (m : Text) (hm : m ∈ H) (ps : List Obj) (st : StdioSt) (h : st.halt = none) :
    stdioRun F H st (ps.map (fun p => Frame.value (wfNote m p))) =
      { st with notes := st.notes ++ ps.map (fun p => (m, Json.obj p)) } := by
  induction ps generalizing st with
  | nil => simp [stdioRun]
  | cons p ps ih =>
    have := ih { st with notes := st.notes ++ [(m, .obj p)] } h
    simpa [stdioRun, stdioStep_value h, stdioValue_note st p hm] using this

/-- notification BURSTS, stdio (good region — today): any number of well-formed notifications of a method with a registered
    handler, back to back — every one is handed to its handler, in order, the reader stays alive and the pending table is
    untouched; so (`C07_later_call_stdio`) a call made afterwards on the same client — by the caller or by one of the
    handlers — is answered.  (What a handler does while it runs is outside the model: today every handler has its own
    goroutine; the differential run exercises handlers that call back into the client.) -/
theorem C07_burst_stdio (F : Facts) (hF : F.stdioOnError = .resync) (H : List Text) (m : Text) (hm : m ∈ H) (ps : List Obj)
    (st : StdioSt) (h : st.halt = none) :
    (stdioRun F H st (ps.map (fun p => Frame.value (wfNote m p)))).halt = none ∧
    (stdioRun F H st (ps.map (fun p => Frame.value (wfNote m p)))).notes = st.notes ++ ps.map (fun p => (m, Json.obj p)) ∧
    (stdioRun F H st (ps.map (fun p => Frame.value (wfNote m p)))).tbl.pending = st.tbl.pending := by
  refine ⟨C07_total_stdio F hF H _ st h, ?_, ?_⟩ <;> rw [stdio_burst F H m hm ps st h]

/-- a burst of any length, then a call: answered -/
theorem C07_call_after_burst_stdio (F : Facts) (hF : F.stdioOnError = .resync) (H : List Text) (m : Text) (hm : m ∈ H) (ps : List Obj)
    (st : StdioSt) (h : st.halt = none) (n : Nat) (o : Obj) :
    (stdioRun F H { stdioRun F H st (ps.map (fun p => Frame.value (wfNote m p))) with tbl := Table.init [n] }
      [.value (wfResult n (.obj o))]).tbl.got n = some (.ok (.obj o)) :=
  C07_later_call_stdio F H _ (C07_burst_stdio F hF H m hm ps st h).1 n o

/-- padding a frame with JSON white space (space, tab, CR, LF — in front, behind, any mixture, any length) does not change
    anything: the line is lexed to the very frame (`json.Unmarshal` skips exactly that white space), so in EVERY region of the
    family the reader does with it what it does with the bare frame -/
theorem C07_stdio_padding_irrelevant (F : Facts) (H : List Text) (st : StdioSt) (lead trail : Text) (v : Json)
    (hl : lead.all jsonWs = true) (ht : trail.all jsonWs = true) :
    stdioStep F H st (lexLine ⟨lead, v, trail⟩) = stdioStep F H st (.value v) := by
  simp [lexLine, hl, ht]

/-- … in particular (good region — today): garbage of any kind, then the well-formed answer to call `c` with white space
    around it — `c` gets its result -/
theorem C07_padded_answer_delivered (F : Facts) (hF : F.stdioOnError = .resync) (H : List Text) (st : StdioSt) (c : Nat)
    (h1 : st.halt = none) (h2 : c ∈ st.tbl.pending) (h3 : st.tbl.got c = none) (g : List Frame)
    (hg : ∀ f ∈ g, stdioAddressed c f = false) (o : Obj) (lead trail : Text)
    (hl : lead.all jsonWs = true) (ht : trail.all jsonWs = true) :
    (stdioRun F H st (g ++ [lexLine ⟨lead, wfResult c (.obj o), trail⟩])).tbl.got c = some (.ok (.obj o)) := by
  rw [show lexLine ⟨lead, wfResult c (.obj o), trail⟩ = .value (wfResult c (.obj o)) by simp [lexLine, hl, ht]]
  exact C07_resync_stdio F hF H st c h1 h2 h3 g hg o

/-- a byte around the value that is not JSON white space (a vertical tab: white space for `bytes.TrimSpace` only) makes the
    line a non-JSON line: skipped by the line reader, the end of a decoder loop -/
example : lexLine ⟨[11], wfResult 2 (.obj []), []⟩ = .garbage ∧ lexLine ⟨[], wfResult 2 (.obj []), [32, 0xC2, 0x85]⟩ = .garbage ∧
    lexLine ⟨[32, 9, 13], wfResult 2 (.obj []), [13]⟩ = .value (wfResult 2 (.obj [])) := ⟨rfl, rfl, rfl⟩

/-- Close ends the read loop whatever it is doing (the loop condition reads `closed`) -/
theorem C07_close_ok_stdio (st : StdioSt) : (stdioClose st).spinning = false := by
  simp [stdioClose, StdioSt.spinning]

example : (stdioRun ⟨none, true, .resync⟩ [] { tbl := Table.init [2, 3] }
    ([.garbage, .value (.int 42), .ws, .spread (wfResult 2 (.obj [])), .value (wfResult 9000 (.obj [])),
      .packed [wfResult 2 (.obj []), wfResult 3 (.obj [])],
      .value (.obj [(t!"jsonrpc", .str t!"2.0"), (t!"id", .str t!"2"), (t!"result", .null)]), .truncated,
      .value (wfResult 3 (.obj []))] ++ [.value (wfResult 2 (.obj [(t!"nextCursor", .str t!"a")]))])).tbl.got 2
      = some (.ok (.obj [(t!"nextCursor", .str t!"a")])) :=
  C07_resync_stdio _ rfl [] _ 2 rfl (by simp [Table.init]) rfl _ (by decide) _

/-! ## the four readers on the well-formed answer -/

/-- the readers hand a well-formed answer's `result` over UNOPENED, whatever it holds (a tools array whose schema documents
    refer to themselves, nest 1000 levels deep or carry wrongly typed keywords, …): the JSON-body reader, the POST-SSE reader
    (no handler registered: the call returns at once) and, on the two shared streams, the delivery to the pending call.  What
    the list decoder then does with such a result is tied by the differential run only (tool-schema cases: the call returns
    the answer's cursor, the process survives, the next call completes). -/
theorem C07_result_opaque (req : Nat) (r : Json) (F : Facts) (hF : F.stdioOnError = .resync) :
    jsonBody 200 (payloadOf (wfResult req r)) = .ok r ∧
    (postCall req [] [dataLine (wfResult req r) 0, blankLine] .eof).isOk = true ∧
    ((legRun F { tbl := Table.init [req], latch := true } (legEvent (wfResult req r) 0)).tbl.got req).isSome = true ∧
    ((stdioRun F [] { tbl := Table.init [req] } [.value (wfResult req r)]).tbl.got req).isSome = true := by
  refine ⟨by simp [jsonBody, payloadOf, wfResult, outOfResponse, hasKey, lookup], ?_, ?_, ?_⟩
  · simp [postCall, postRun, postStep, dataLine, blankLine, postData_result, postReceived, postFinish, CallOut.isOk]
  · rw [leg_answer rfl (by simp [Table.init]) rfl]
    rfl
  · simp [stdioRun, stdioStep, hF, stdioLineStep, stdioValue, msgType, wfResult, lookupStr?, hasKey, lookup, idOf, keyIs, idInt64,
      Table.deliver, Table.init]

/-! ## the tree as it is -/

private theorem good_iff {F : Facts} :
    F.good = true ↔ F.getLimit = none ∧ F.latchGuarded = true ∧ F.stdioOnError = .resync := by
  simp [Facts.good, and_assoc]

/-- In the good region of the family (no line limit, guarded latch, line-reading stdio loop) no reader ever stops:
    `C07_total` in full, for every stream of every background reader. -/
theorem C07_total (F : Facts) (hF : F.good = true) (H : List Text) :
    (∀ ls, (getRun F H {} ls).halt = none) ∧
    (∀ ids ls, (legRun F { tbl := Table.init ids } ls).halt = none) ∧
    (∀ ids fs, (stdioRun F H { tbl := Table.init ids } fs).halt = none) := by
  obtain ⟨h1, h2, h3⟩ := good_iff.mp hF
  exact ⟨fun ls => C07_alive_get F h1 H ls {} rfl,
    fun ids ls => C07_total_legacy F h2 ls _ rfl,
    fun ids fs => C07_total_stdio F h3 H fs _ rfl⟩

/-- the facts regenerated from the source on this run lie in the good region: the GET reader has no line limit, the
    endpoint latch is closed under a guard, the stdio loop is a line reader -/
theorem C07_facts_good : Mcp.Gen.rdFacts.good = true := by decide

/-- the tree as it is: no stream stops, crashes or wedges any of the three background readers -/
theorem C07_total_here (H : List Text) :
    (∀ ls, (getRun Mcp.Gen.rdFacts H {} ls).halt = none) ∧
    (∀ ids ls, (legRun Mcp.Gen.rdFacts { tbl := Table.init ids } ls).halt = none) ∧
    (∀ ids fs, (stdioRun Mcp.Gen.rdFacts H { tbl := Table.init ids } fs).halt = none) :=
  C07_total _ C07_facts_good H

/-- the tree as it is: garbage of any kind before a well-formed frame never prevents its delivery, on any of the three
    shared streams -/
theorem C07_resync_here (H : List Text) :
    (∀ (g : List Line) method params, method ∈ H → ∀ n,
      (getRun Mcp.Gen.rdFacts H {} (g ++ getEvent (wfNote method params) n)).notes =
        (getRun Mcp.Gen.rdFacts H {} g).notes ++ [(method, .obj params)]) ∧
    (∀ (ids : List Nat) (c : Nat), c ∈ ids → ∀ (g : List Line), (∀ l ∈ g, legLineAddressed c l = false) → ∀ r n,
      (legRun Mcp.Gen.rdFacts { tbl := Table.init ids } (g ++ legEvent (wfResult c r) n)).tbl.got c = some (.ok r)) ∧
    (∀ (ids : List Nat) (c : Nat), c ∈ ids → ∀ (g : List Frame), (∀ f ∈ g, stdioAddressed c f = false) → ∀ o,
      (stdioRun Mcp.Gen.rdFacts H { tbl := Table.init ids } (g ++ [.value (wfResult c (.obj o))])).tbl.got c =
        some (.ok (.obj o))) := by
  obtain ⟨h1, h2, h3⟩ := good_iff.mp C07_facts_good
  exact ⟨fun g method params hm n => C07_resync_get _ h1 H {} rfl g method params hm n,
    fun ids c hc g hg r n => C07_resync_legacy _ h2 _ c rfl (by simpa [Table.init] using hc) rfl rfl g hg r n,
    fun ids c hc g hg o => C07_resync_stdio _ h3 H _ c rfl (by simpa [Table.init] using hc) rfl g hg o⟩

/-- regenerated fact, decided: every assignment of the remembered event id / every `Last-Event-ID` header write sits
    behind a header-safety check (D33 repaired in /repo f1950f8) — the good region of `C07_later_call_streamable`. -/
theorem C07_fact_id_checked : Mcp.Gen.rdIdChecked = true := by decide

end Mcp.Props.C07
