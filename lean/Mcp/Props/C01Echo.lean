/-
  C01 — server side: the answer echoes the request's id (reuses the `Rpc` model of the three servers' request paths,
  `Mcp.Model.Rpc`, and its normal-form lemmas in `Mcp.Lemmas.Rpc`).
-/
import Mcp.Lemmas.Rpc
namespace Mcp.Props.C01
open Mcp.Str Mcp.Json Mcp.Content Mcp.RpcSpec Mcp.Rpc Mcp.Session

/-- the `id` member of a message -/
def msgId : Json → Option Json
  | .obj o => lookup o t!"id"
  | _ => none

/-- a string id, or an integer id a float64 holds exactly -/
def exactId : Json → Prop
  | .str _ => True
  | .int i => i.natAbs ≤ two53
  | _ => False

private theorem ansMsg_id (id : Json) (a : Ans) (msg : Json) (h : ansMsg (some id) a = some msg) : msgId msg = some id := by
  cases a <;> cases h <;> rfl

private theorem goDecode_exact (id : Json) (h : exactId id) : goDecode id = some id := by
  cases id with
  | str s => rfl
  | int i =>
    have hi : i.natAbs ≤ two53 := h
    simp [goDecode, Nat.lt_of_le_of_lt hi two53_lt_overflow, f64RoundInt_exact i hi]
  | _ => exact h.elim

/-- **Id echo**: a request with a well-formed JSON-RPC envelope whose id is a string or an integer of magnitude up to 2^53,
    arriving in a session that accepts it, is answered — on the Streamable server (the HTTP answer of the POST), on the legacy
    SSE server (one frame on the session's stream) and on the stdio server (one line) — by exactly one message, and that
    message carries the request's id unchanged: the same JSON value, a string stays a string, an integer stays that
    integer. (`a` is whatever the dispatcher computed from this request's own method and params; an unencodable result is
    answered with an internal-error message for the same id.) -/
theorem C01_echo (reg : Registry) (o mm : Obj) (hwf : wfEnvelope (.obj o) = true) (hrep : goDecodeFields o = some mm)
    (m : Text) (hm : lookup o t!"method" = some (.str m)) (hne : m ≠ [])
    (c : SCfg) (st : St) (ref : Ref) (acc : Bool) (hs : sessionOk c st ref m)
    (id : Json) (hid : lookup o t!"id" = some id) (hex : exactId id) :
    (∀ a msg, dispatch reg ⟨some id, m, paramsOf mm⟩ = .ok a → ansMsg (some id) a = some msg →
        (serveStreamable c reg st (postOf ref acc (.obj o))).2 = .http 200 (some msg) ∧
        serveSSE reg (ssePostOf (.obj o)) = .resp ⟨some 202, none, [msg]⟩ ∧ msgId msg = some id) ∧
    (∀ a msg, dispatchStdio reg ⟨some id, m, paramsOf mm⟩ = .ok a → ansMsg (some id) a = some msg →
        serveStdio reg (.json (.obj o)) = .resp ⟨none, none, [msg]⟩ ∧ msgId msg = some id) := by
  obtain ⟨id0, id', a, a', hid0, hid', h⟩ := serve_wfEnvelope reg o mm hwf hrep m hm hne c st ref acc hs
  cases Option.some.inj (hid.symm.trans hid0)
  cases Option.some.inj ((goDecode_exact id hex).symm.trans hid')
  rw [h.streamable, h.sse, h.stdio]
  refine ⟨fun b msg hb hmsg => ?_, fun b msg hb hmsg => ?_⟩
  · cases Outcome.ok.inj (h.table.symm.trans hb)
    rw [hmsg]
    exact ⟨rfl, rfl, ansMsg_id _ a msg hmsg⟩
  · cases Outcome.ok.inj (h.switch.symm.trans hb)
    rw [hmsg]
    exact ⟨rfl, ansMsg_id _ a' msg hmsg⟩

/-- Beyond 2^53 the echo is the float64 the id was decoded into, not the id: 2^53+1 comes back as 2^53. -/
theorem C01_echo_counterexample : f64RoundInt 9007199254740993 = 9007199254740992 := by decide +kernel

-- non-vacuity: a well-formed envelope with a string id, and one with an integer id
example : wfEnvelope (.obj [(t!"jsonrpc", .str t!"2.0"), (t!"id", .str t!"abc"), (t!"method", .str t!"ping")]) = true ∧ exactId (.str t!"abc") := by
  refine ⟨by decide, trivial⟩

end Mcp.Props.C01
