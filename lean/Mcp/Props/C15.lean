/-
  C15 — Middlewares wrap every request as an onion, each exactly once.

  `run ms h` is the chain `applyMiddlewares` builds in the compliant region (first registered = outermost) around
  the dispatch function of an arbitrary method handler `h`; `serve` adds registration (both option forms, both
  servers), the outcome mapping of the transports and the notification path, indexed by the regenerated facts.
  All theorems are for chains of every length and every mixture of the five behaviours.
-/
import Mcp.Model.Middleware
import Mcp.Gen.MiddlewareFacts
namespace Mcp.Props.C15
open Mcp.Middleware Mcp.Str

private theorem run_nil (h : Req → Out) (req : Req) : run [] h req = ([.handler req.mods], h req) := rfl

private theorem run_cons (s : Stage) (ms : List Stage) (h : Req → Out) (req : Req) :
    run (s :: ms) h req = s.wrap (run ms h) req := rfl

private theorem run_append (pre rest : List Stage) (h : Req → Out) :
    run (pre ++ rest) h = pre.foldr Stage.wrap (run rest h) := List.foldr_append

private theorem inside_append_of_calls (pre rest : List Stage) (hp : ∀ s ∈ pre, s.beh.calls = true) :
    inside (pre ++ rest) = inside rest := by
  induction pre with
  | nil => rfl
  | cons s pre ih =>
    rw [List.forall_mem_cons] at hp
    simp [inside, hp.1, ih hp.2]

private theorem live_calls (ms : List Stage) : ∀ s ∈ live ms, s.beh.calls = true := by
  induction ms with
  | nil => simp [live]
  | cons s ms ih =>
    by_cases hs : s.beh.calls = true
    · simpa [live, hs] using ih
    · simp [live, hs]

private theorem split_chain (ms : List Stage) : ms = live ms ++ (stopper ms).toList ++ inside ms := by
  induction ms with
  | nil => rfl
  | cons s ms ih =>
    by_cases hs : s.beh.calls = true
    · simp only [live, stopper, inside, hs]
      exact congrArg (s :: ·) ih
    · simp [live, stopper, inside, hs]

private theorem ran_prefix (ms : List Stage) : live ms ++ (stopper ms).toList <+: ms :=
  ⟨inside ms, (split_chain ms).symm⟩

/-! ## the onion

  Everything below is `wraps` (stages that all call `next`, around ANY handler) read at `run_eq_live` (a chain is its
  `live` prefix around its centre). -/

private theorem wrap_stop (s : Stage) (hs : s.beh.calls = false) (next : Handler) (req : Req) :
    s.wrap next req = ([.before s.id req.mods], s.beh.stopOut) := by
  rcases s with ⟨i, b⟩
  cases b with
  | short v | fail e => rfl
  | _ => cases hs

private theorem before_mem_wrap (s : Stage) (next : Handler) (req : Req) : Ev.before s.id req.mods ∈ (s.wrap next req).1 := by
  rcases s with ⟨i, b⟩
  cases b <;> simp [Stage.wrap]

private theorem wrap_calls (s : Stage) (hs : s.beh.calls = true) (next : Handler) (req : Req) :
    s.wrap next req =
      (.before s.id req.mods ::
        ((next { mods := req.mods ++ reqMods [s] }).1 ++ [.after s.id (next { mods := req.mods ++ reqMods [s] }).2]),
       resMods [s] (next { mods := req.mods ++ reqMods [s] }).2) := by
  rcases s with ⟨i, b⟩
  cases b with
  | short v | fail e => cases hs
  | _ => simp [Stage.wrap, reqMods, resMods, Beh.isModReq, Beh.isModRes]

/-- What the stages `pre` make (`outer`: trace and result) of the trace and result `inner` of what they wrap. -/
private structure Wraps (pre : List Stage) (inner outer : List Ev × Out) : Prop where
  result : outer.2 = resMods pre inner.2
  tags : tags outer.1 = pre.map (fun s => Tag.b s.id) ++ tags inner.1 ++ pre.reverse.map (fun s => Tag.a s.id)
  events : ∀ ev ∈ inner.1, ev ∈ outer.1

private theorem wraps (pre : List Stage) (hpre : ∀ s ∈ pre, s.beh.calls = true) (next : Handler) (req : Req) :
    Wraps pre (next { mods := req.mods ++ reqMods pre }) (pre.foldr Stage.wrap next req) := by
  induction pre generalizing req with
  | nil => refine ⟨?_, ?_, ?_⟩ <;> simp [resMods, reqMods]
  | cons s pre ih =>
    rw [List.forall_mem_cons] at hpre
    have ih := ih hpre.2 { mods := req.mods ++ reqMods [s] }
    have hm : req.mods ++ reqMods (s :: pre) = (req.mods ++ reqMods [s]) ++ reqMods pre := by
      simp only [reqMods, List.filter_cons]; split <;> simp
    rw [List.foldr_cons, wrap_calls s hpre.1, hm]
    refine ⟨congrArg (resMods [s]) ih.result, ?_, fun ev hev => by simp [ih.events ev hev]⟩
    have h2 := ih.tags
    simp only [tags] at h2 ⊢
    simp [h2, Ev.tag]

/-- The centre of the onion: the first stage that does not call `next`, or the method handler. -/
private def centre (st : Option Stage) (h : Req → Out) : Handler := fun req =>
  -- not a `match`: `C15_trace_shape` / `C15_result` state a `match` on `Option Stage` and would get this definition's matcher
  st.elim ([.handler req.mods], h req) fun s => ([.before s.id req.mods], s.beh.stopOut)

private theorem run_eq_live (ms : List Stage) (h : Req → Out) :
    run ms h = (live ms).foldr Stage.wrap (centre (stopper ms) h) := by
  induction ms with
  | nil => rfl
  | cons s ms ih =>
    by_cases hs : s.beh.calls = true
    · simp only [live, stopper, hs, if_true, List.foldr_cons, ← ih]; rfl
    · funext req
      simp only [live, stopper, hs]
      exact wrap_stop s (by simpa using hs) _ req

/-- **Onion order, every chain.** The trace of a request is: the `before` of every stage in front of the first
    stage that does not call `next` (in registration order), then that stage's `before` — or the method handler
    when every stage calls `next` —, then the `after`s of the stages in front in reverse order. Nothing else. -/
theorem C15_trace_shape (ms : List Stage) (h : Req → Out) (req : Req) :
    tags (run ms h req).1 =
      (live ms).map (fun s => Tag.b s.id)
        ++ (match stopper ms with | none => [Tag.h] | some s => [Tag.b s.id])
        ++ (live ms).reverse.map (fun s => Tag.a s.id) := by
  rw [run_eq_live, (wraps (live ms) (live_calls ms) _ req).tags]
  cases stopper ms <;> rfl

/-- **The statement's first sentence.** With stages `m1..mn` that all call `next` (pass, modify the request,
    modify the result) the trace is `m1-before, …, mn-before, handler, mn-after, …, m1-after`. -/
theorem C15_onion (ms : List Stage) (h : Req → Out) (req : Req) (hall : ∀ s ∈ ms, s.beh.calls = true) :
    tags (run ms h req).1 = ms.map (fun s => Tag.b s.id) ++ [Tag.h] ++ ms.reverse.map (fun s => Tag.a s.id) :=
  (wraps ms hall (core h) req).tags

private theorem ids_of_tags (t : List Ev) :
    beforeIds t = (tags t).filterMap (fun | .b i => some i | _ => none) ∧
    afterIds t = (tags t).filterMap (fun | .a i => some i | _ => none) ∧
    handlerRuns t = ((tags t).filter (· = Tag.h)).length := by
  unfold beforeIds afterIds handlerRuns tags
  rw [List.filterMap_map, List.filterMap_map, List.filter_map, List.length_map]
  refine ⟨?_, ?_, ?_⟩ <;> congr 2 <;> funext e <;> cases e <;> rfl

/-- **Each exactly once, positionally.** The stages whose `before` is in the trace are exactly the stages up to
    and including the first that does not call `next`, each as often as it is registered and in registration
    order; the stages whose `after` is in the trace are exactly those in front of it, in reverse order; the
    handler runs once when every stage calls `next` and not at all otherwise. -/
theorem C15_once (ms : List Stage) (h : Req → Out) (req : Req) :
    beforeIds (run ms h req).1 = (live ms ++ (stopper ms).toList).map (·.id)
    ∧ afterIds (run ms h req).1 = ((live ms).map (·.id)).reverse
    ∧ handlerRuns (run ms h req).1 = (if (stopper ms).isNone then 1 else 0) := by
  obtain ⟨h1, h2, h3⟩ := ids_of_tags (run ms h req).1
  rw [h1, h2, h3, C15_trace_shape]
  have hf : ∀ l : List Stage, l.filter (fun _ => false) = [] := by simp
  -- the selectors go through `++` and `map`: a `filterMap` is `map (·.id)` on the tags it selects and `[]` on the others,
  -- and the `filter` for `Tag.h` keeps nothing of the `b`/`a` tags (`hf`)
  cases stopper ms <;> simp [List.filter_map, Function.comp_def, hf]

/-- **At most once.** When the registered stages are distinct no stage enters twice, none leaves twice, and the
    handler runs at most once. -/
theorem C15_at_most_once (ms : List Stage) (h : Req → Out) (req : Req) (hd : (ms.map (·.id)).Nodup) :
    (beforeIds (run ms h req).1).Nodup ∧ (afterIds (run ms h req).1).Nodup ∧ handlerRuns (run ms h req).1 ≤ 1 := by
  obtain ⟨h1, h2, h3⟩ := C15_once ms h req
  have hran : ((live ms ++ (stopper ms).toList).map (·.id)).Nodup :=
    hd.sublist ((ran_prefix ms).sublist.map _)
  rw [h1, h2, h3]
  refine ⟨hran, ?_, by split <;> simp⟩
  rw [List.map_append, List.nodup_append] at hran
  exact List.pairwise_reverse.mpr (hran.1.imp Ne.symm)

/-! ## what comes back -/

/-- **The result, every chain.** What the chain returns is what the innermost thing that ran produced — the
    handler on the request as modified by the stages in front of it, or the value of the first stage that did
    not call `next` — with the marks of the result-modifying stages in front of it, innermost first. -/
theorem C15_result (ms : List Stage) (h : Req → Out) (req : Req) :
    (run ms h req).2 =
      resMods (live ms) (match stopper ms with
        | none => h { mods := req.mods ++ reqMods (live ms) }
        | some s => s.beh.stopOut) := by
  rw [run_eq_live, (wraps (live ms) (live_calls ms) _ req).result]
  cases stopper ms <;> rfl

/-- **The request flows inwards.** A stage behind stages that all call `next` sees the request with exactly the
    modifications of the request-modifying stages in front of it, in registration order. -/
theorem C15_stage_sees (pre post : List Stage) (s : Stage) (h : Req → Out) (req : Req)
    (hpre : ∀ t ∈ pre, t.beh.calls = true) :
    Ev.before s.id (req.mods ++ reqMods pre) ∈ (run (pre ++ s :: post) h req).1 := by
  rw [run_append]
  exact (wraps pre hpre _ req).events _ (before_mem_wrap s _ _)

/-- The handler, when it runs, sees the request as modified by all request-modifying stages. -/
theorem C15_handler_sees (ms : List Stage) (h : Req → Out) (req : Req) (hall : ∀ s ∈ ms, s.beh.calls = true) :
    Ev.handler (req.mods ++ reqMods ms) ∈ (run ms h req).1 :=
  (wraps ms hall (core h) req).events _ (List.mem_singleton.mpr rfl)

private theorem resMods_fixed (pre : List Stage) (o : Out) (ho : ∀ s ∈ pre, s.beh.isModRes = true → o.addMod s.id = o) :
    resMods pre o = o := by
  induction pre with
  | nil => rfl
  | cons s pre ih =>
    rw [List.forall_mem_cons] at ho
    simp only [resMods, ih ho.2]
    split
    · exact ho.1 ‹_›
    · rfl

/-! ## short-circuit -/

/-- **Short-circuit.** A stage that returns `v` without calling `next` (behind stages that call `next`):
    the trace is the `before`s of the stages in front, its own `before`, and their `after`s in reverse —
    no handler, nothing of the stages inside — and the chain returns `v` with the marks of the
    result-modifying stages in front of it. -/
theorem C15_short (pre post : List Stage) (i : Nat) (v : ShortVal) (h : Req → Out) (req : Req)
    (hpre : ∀ s ∈ pre, s.beh.calls = true) :
    tags (run (pre ++ ⟨i, .short v⟩ :: post) h req).1
        = pre.map (fun s => Tag.b s.id) ++ [Tag.b i] ++ pre.reverse.map (fun s => Tag.a s.id)
    ∧ (run (pre ++ ⟨i, .short v⟩ :: post) h req).2 = resMods pre v.out := by
  rw [run_append]
  exact ⟨(wraps pre hpre _ req).tags, (wraps pre hpre _ req).result⟩

/-- When no stage in front modifies results, the short-circuit value is the chain's return value, untouched. -/
theorem C15_short_value_untouched (pre post : List Stage) (i : Nat) (v : ShortVal) (h : Req → Out) (req : Req)
    (hpre : ∀ s ∈ pre, s.beh.calls = true) (hno : ∀ s ∈ pre, s.beh.isModRes = false) :
    (run (pre ++ ⟨i, .short v⟩ :: post) h req).2 = v.out := by
  rw [(C15_short pre post i v h req hpre).2]
  exact resMods_fixed pre _ fun s hs hm => by rw [hno s hs] at hm; cases hm

/-- **Nothing inside runs — extensionally.** Whatever is registered inside a stage that does not call `next`,
    and whatever the method handler is, neither the trace nor the return value depends on it. -/
theorem C15_inside_irrelevant (pre post post' : List Stage) (s : Stage) (h h' : Req → Out) (req : Req)
    (hs : s.beh.calls = false) :
    run (pre ++ s :: post) h req = run (pre ++ s :: post') h' req := by
  have : run (s :: post) h = run (s :: post') h' := by
    funext r; rw [run_cons, run_cons, wrap_stop s hs, wrap_stop s hs]
  rw [run_append, run_append, this]

/-- No event of a stage inside a short-circuiting / failing stage and no handler event is in the trace
    (stages distinct). -/
theorem C15_inside_silent (ms : List Stage) (h : Req → Out) (req : Req) (hd : (ms.map (·.id)).Nodup)
    (hstop : (stopper ms).isSome) :
    Tag.h ∉ tags (run ms h req).1 ∧
    ∀ t ∈ inside ms, Tag.b t.id ∉ tags (run ms h req).1 ∧ Tag.a t.id ∉ tags (run ms h req).1 := by
  obtain ⟨s, hs⟩ := Option.isSome_iff_exists.mp hstop
  rw [split_chain ms, List.map_append, List.nodup_append] at hd
  rw [C15_trace_shape, hs]
  refine ⟨by simp, fun t ht => ?_⟩
  have hfresh : (∀ u ∈ live ms, u.id ≠ t.id) ∧ s.id ≠ t.id := by
    simpa [hs, or_imp, forall_and] using fun i hi => hd.2.2 i hi t.id (List.mem_map_of_mem ht)
  simpa [hfresh.2, eq_comm (a := t.id)] using hfresh.1

/-! ## failure -/

/-- **A middleware error.** A stage that returns `(nil, errors.New e)` behind stages that call `next`: nothing
    inside runs and the chain returns that error, untouched by the result-modifying stages in front. -/
theorem C15_fail (pre post : List Stage) (i : Nat) (e : Text) (h : Req → Out) (req : Req)
    (hpre : ∀ s ∈ pre, s.beh.calls = true) :
    tags (run (pre ++ ⟨i, .fail e⟩ :: post) h req).1
        = pre.map (fun s => Tag.b s.id) ++ [Tag.b i] ++ pre.reverse.map (fun s => Tag.a s.id)
    ∧ (run (pre ++ ⟨i, .fail e⟩ :: post) h req).2 = .err e := by
  rw [run_append]
  -- result-modifying stages pass a Go error on untouched
  exact ⟨(wraps pre hpre _ req).tags, (wraps pre hpre _ req).result.trans (resMods_fixed pre _ fun _ _ _ => rfl)⟩

/-- … and the client receives a JSON-RPC error with the internal-error code carrying the message. -/
theorem C15_fail_response (code : Int) (pre post : List Stage) (i : Nat) (e : Text) (h : Req → Out) (req : Req)
    (hpre : ∀ s ∈ pre, s.beh.calls = true) :
    respond code (run (pre ++ ⟨i, .fail e⟩ :: post) h req).2 = .error code e [] := by
  rw [(C15_fail pre post i e h req hpre).2]; rfl

/-- The only ways a client gets an answer that is not the chain's own value: a Go error. Results and
    `*JSONRPCError` values are delivered as they are. -/
theorem C15_value_delivered (code : Int) (o : Out) :
    (∀ v rm, o = .ok v rm → respond code o = .result v rm) ∧
    (∀ c m rm, o = .rpcErr c m rm → respond code o = .error c m rm) :=
  ⟨fun _ _ h => h ▸ rfl, fun _ _ _ h => h ▸ rfl⟩

/-! ## registration: both option forms, both servers -/

private theorem foldl_use (reg ms : List Stage) : ms.foldl use reg = reg ++ ms := by
  show ms.foldl (· ++ [·]) reg = reg ++ ms
  simp [← List.flatMap_def]

/-- `NewServer(WithMiddleware(g1…), WithMiddleware(g2…), …)` registers the concatenation, in order. -/
theorem C15_registration (opts : List (List Stage)) :
    newServer opts = opts.flatten ∧ newSSEServer opts = opts.flatten := by
  have h : opts.foldl (· ++ ·) [] = opts.flatten := by
    simpa using List.foldl_append_eq_append (l := opts) (f := id) (l' := [])
  simp [newServer, newSSEServer, foldl_use, h]

private theorem registered_eq (tr : Transport) (opts : List (List Stage)) : registered tr opts = opts.flatten := by
  cases tr with
  | streamable => exact (C15_registration opts).1
  | sse => exact (C15_registration opts).2

/-- **Both option forms.** `WithMiddleware(a, b)` ≡ `WithMiddleware(a), WithMiddleware(b)` — and any two
    groupings of the same sequence — on either server, for every message. -/
theorem C15_option_forms (f : Facts) (tr : Transport) (opts opts' : List (List Stage)) (h : Req → Out) (m : Msg)
    (hsame : opts.flatten = opts'.flatten) : serve f tr opts h m = serve f tr opts' h m := by
  cases m <;> simp [serve, registered_eq, hsame]

theorem C15_option_forms_pair (f : Facts) (tr : Transport) (a b : Stage) (h : Req → Out) (m : Msg) :
    serve f tr [[a, b]] h m = serve f tr [[a], [b]] h m :=
  C15_option_forms f tr _ _ h m rfl

/-! ## notifications, independence of requests -/

/-- **Notifications bypass the chain**: no stage runs, nothing is answered. -/
theorem C15_notifications_bypass (f : Facts) (tr : Transport) (opts : List (List Stage)) (h : Req → Out)
    (hf : f.notifBypass = true) : serve f tr opts h .notification = ([], none) := by
  simp [serve, hf]

/-- **For that request only.** What one message of a batch gets depends on nothing but that message and the
    behaviour the stages show on it: a failing request in the batch changes no other answer. -/
theorem C15_per_request (f : Facts) (tr : Transport) (h : Req → Out)
    (before after : List (List (List Stage) × Msg)) (x : List (List Stage) × Msg) :
    serveAll f tr h (before ++ x :: after) = serveAll f tr h before ++ serve f tr x.1 h x.2 :: serveAll f tr h after := by
  simp [serveAll]

/-! ## the other constructor options: their order is irrelevant -/

private theorem no_option_replaces (writers : List Text) (hw : handlerNotReplaced writers = true) (name : Text) :
    replacesHandler writers name = false := by
  have hc : ∀ c ∈ handlerConstructors, ¬ t!".func1" <:+ c := by decide
  rw [eq_of_beq (show (writers == handlerConstructors) = true from hw)]
  simpa [replacesHandler] using fun hm => hc _ hm (List.suffix_append name _)

private theorem foldl_sseX (ws : List Text) (hr : ∀ n, replacesHandler ws n = false) (opts : List Opt) (reg : List Stage) :
    opts.foldl (sseOptStep ws) reg = reg ++ (Opt.groups opts).flatten := by
  induction opts generalizing reg with
  | nil => simp [Opt.groups]
  | cons o opts ih =>
    rw [List.foldl_cons, ih]
    cases o with
    | mw ms => simp [sseOptStep, Opt.groups, foldl_use]
    | other n => simp [sseOptStep, Opt.groups, hr n]

/-- **Registration does not depend on the other options.** When nothing but the constructors writes the handler field,
    a server built from ANY interleaving of middleware options with any other options registers exactly the
    concatenation of the middleware options, in their order — on both servers. -/
theorem C15_other_options_irrelevant (writers : List Text) (hw : handlerNotReplaced writers = true) (tr : Transport)
    (opts : List Opt) : registeredX writers tr opts = (Opt.groups opts).flatten := by
  cases tr with
  | streamable => exact (C15_registration _).1
  | sse => exact (foldl_sseX writers (no_option_replaces writers hw) opts []).trans (List.nil_append _)

/-- … hence every message is served exactly as by the server built from the middleware options alone: all theorems
    about `serve` / `run` hold for every position of the middleware options among the other options. -/
theorem C15_option_order (f : Facts) (writers : List Text) (hw : handlerNotReplaced writers = true) (tr : Transport)
    (opts : List Opt) (h : Req → Out) (m : Msg) :
    serveX f writers tr opts h m = serve f tr (Opt.groups opts) h m := by
  have hr : registeredX writers tr opts = registered tr (Opt.groups opts) := by
    rw [C15_other_options_irrelevant writers hw tr opts, registered_eq]
  cases m <;> simp [serveX, serve, hr]

/-- The model family is not trivial in the fact: were the closure of `WithSSEServerLogger` among the writers of the
    field, the predicate rejects the table, and a middleware registered before that option would be lost on the legacy
    SSE server (not on the Streamable one, whose handler is created after the options). -/
theorem C15_handler_replaced_witness :
    let ws := [t!"NewSSEServer", t!"Server.initComponents", t!"WithSSEServerLogger.func1"]
    handlerNotReplaced ws = false
    ∧ newSSEServerX ws [.mw [⟨0, .pass⟩], .other t!"WithSSEServerLogger", .mw [⟨1, .pass⟩]] = [⟨1, .pass⟩]
    ∧ newSSEServerX ws [.other t!"WithSSEServerLogger", .mw [⟨0, .pass⟩], .mw [⟨1, .pass⟩]] = [⟨0, .pass⟩, ⟨1, .pass⟩]
    ∧ registeredX ws .streamable [.mw [⟨0, .pass⟩], .other t!"WithSSEServerLogger", .mw [⟨1, .pass⟩]] = [⟨0, .pass⟩, ⟨1, .pass⟩] := by
  decide

/-! ## overlapping requests of one session -/

/-- **Every request passes the chain, however many others of its session are in flight**: with an unconditional
    hand-over a message is served exactly as if it were alone — all theorems about `serve` / `run` hold for each of any
    number of overlapping requests. -/
theorem C15_overlap_every_request_served (f : Facts) (tr : Transport) (opts : List (List Stage)) (h : Req → Out)
    (inflight : Nat) (m : Msg) : serveOverlapping f none tr opts h inflight m = serve f tr opts h m := by
  simp [serveOverlapping, admitted]

/-- The family is not trivial in the gate: behind a non-blocking gate of 16 tokens the 17th overlapping request has an
    empty trace and no answer (the first 16 are served), and the predicate rejects the shape such a gate has in the source. -/
theorem C15_gate_witness (f : Facts) (tr : Transport) (opts : List (List Stage)) (h : Req → Out) (m : Msg) :
    serveOverlapping f (some 16) tr opts h 16 m = ([], none)
    ∧ serveOverlapping f (some 16) tr opts h 15 m = serve f tr opts h m
    ∧ dispatchNeverDrops [t!"decl", t!"unmarshal-guard", t!"select-default", t!"go-other"] sseProcessDirect true 0 = false := by
  refine ⟨?_, ?_, by decide⟩ <;> simp [serveOverlapping, admitted]

/-! ## the facts of today's source -/

theorem C15_fact_first_registered_outermost :
    Mcp.Gen.mwLoopDescending = true ∧ Mcp.Gen.mwLoopAscending = false ∧ Mcp.Gen.mwHandleRequestRunsChain = true := by decide

theorem C15_fact_registration_in_order : Mcp.Gen.mwUseAppends = true ∧ Mcp.Gen.mwRegistrationInOrder = true := by decide

theorem C15_fact_notifications_bypass : Mcp.Gen.mwNotificationsBypass = true := by decide

theorem C15_fact_internal_error_code :
    Mcp.Gen.mwInternalCodeStreamable = -32603 ∧ Mcp.Gen.mwInternalCodeSSE = -32603 := by decide

/-- **No option and no method replaces the handler** the middlewares are registered on: in today's source the field
    `mcpHandler` is given a value by `NewSSEServer` (once) and `Server.initComponents` (once) and by nothing else. -/
theorem C15_handler_not_replaced : handlerNotReplaced Mcp.Gen.mwHandlerWriters = true := by decide

/-- … and both struct types that carry such a field are covered by that table. -/
theorem C15_fact_handler_holders : Mcp.Gen.mwHandlerHolders = [t!"SSEServer", t!"Server"] := by decide

/-- **No path drops a request after acknowledging it**: in today's source `handleRequestMessage` is
    `var request; parse guard; go s.processRequestAsync(…)`, `processRequestAsync` reaches `mcpHandler.handleRequest`
    behind nothing but the detached context and the roots-response guard, the 202 in `handleMessage` is directly followed by
    the request branch, and the Streamable POST path contains no `select`. -/
theorem C15_fact_dispatch_never_drops :
    dispatchNeverDrops Mcp.Gen.mwSSEDispatchShape Mcp.Gen.mwSSEProcessPrefix Mcp.Gen.mwSSEAckThenDispatch
      Mcp.Gen.mwStreamableDispatchSelects = true := by decide

/-- **The code as it is today** is in the compliant region (together with `C15_fact_first_registered_outermost`:
    `handleRequest` builds the chain once per request around the dispatch function and runs it once): a request against a server built from `opts` on
    either transport yields exactly the onion run over the concatenated options, answered with −32603 for a
    Go error; a notification yields nothing. All theorems above about `run` therefore speak about `serve codeFacts`. -/
theorem C15_code_serve (tr : Transport) (opts : List (List Stage)) (h : Req → Out) (r : Req) :
    serve codeFacts tr opts h (.request r)
      = ((run opts.flatten h r).1, some (respond (-32603) (run opts.flatten h r).2))
    ∧ serve codeFacts tr opts h .notification = ([], none) := by
  have hfo : codeFacts.firstOutermost = true := by decide
  have hnb : codeFacts.notifBypass = true := by decide
  have hcode : codeFacts.code tr = -32603 := by cases tr <;> decide
  refine ⟨?_, C15_notifications_bypass _ tr opts h hnb⟩
  simp [serve, applyMiddlewares, registered_eq, hfo, hcode, run]

/-- **The code as it is today, any option order**: a request against a server built from any interleaving of
    middleware options and other options yields the onion run over the concatenated middleware options. -/
theorem C15_code_serve_any_order (tr : Transport) (opts : List Opt) (h : Req → Out) (r : Req) :
    serveX codeFacts codeWriters tr opts h (.request r)
      = ((run (Opt.groups opts).flatten h r).1, some (respond (-32603) (run (Opt.groups opts).flatten h r).2)) := by
  rw [C15_option_order codeFacts codeWriters C15_handler_not_replaced tr opts h (.request r)]
  exact (C15_code_serve tr (Opt.groups opts) h r).1

/-- **The code as it is today, any number of overlapping requests**: a request that arrives while `inflight` others
    of its session are being processed yields exactly the onion run, on both transports. -/
theorem C15_code_serve_overlapping (tr : Transport) (opts : List (List Stage)) (h : Req → Out) (inflight : Nat) (r : Req) :
    serveOverlapping codeFacts (codeGate tr) tr opts h inflight (.request r)
      = ((run opts.flatten h r).1, some (respond (-32603) (run opts.flatten h r).2)) := by
  have hg : codeGate tr = none := by
    unfold codeGate
    rw [C15_fact_dispatch_never_drops]; rfl
  rw [hg, C15_overlap_every_request_served]
  exact (C15_code_serve tr opts h r).1

/-- **A modification is for that request only.** No request handler returns a package-level variable as its result and
    `handlePing` builds its empty object per call (regenerated): so what a result-modifying middleware writes into the
    result it was handed — in place — reaches the answer of that request and of no other, on this or any other server of
    the process. -/
theorem C15_fact_fresh_results : codeFreshResults = true := by decide

theorem C15_modification_for_that_request_only (m : Nat) : secondAnswerMarks codeFreshResults m = [] := by
  rw [C15_fact_fresh_results]; rfl

/-- The bad region (seeded change C15-18): `handlePing` returning one package-level `emptyResult` is rejected, and with a
    shared object the second ping's answer carries the first one's mark. -/
theorem C15_shared_result_witness :
    freshResults [(t!"mcpHandler.handlePing", t!"emptyResult")] t!"var:emptyResult" = false ∧
    freshResults [] t!"var:emptyResult" = false ∧ freshResults [] t!"missing" = false ∧
    secondAnswerMarks false 7 = [7] := by decide

/-- three stages that all call `next`: the full onion, the handler sees the request modification, the result
    carries the result mark. -/
example :
    run [⟨0, .pass⟩, ⟨1, .modReq⟩, ⟨2, .modRes⟩] (fun r => .ok (.handler r.mods) []) {} =
      ([.before 0 [], .before 1 [], .before 2 [1], .handler [1], .after 2 (.ok (.handler [1]) []),
        .after 1 (.ok (.handler [1]) [2]), .after 0 (.ok (.handler [1]) [2])], .ok (.handler [1]) [2]) := by decide

/-- a short-circuit in the middle: stage 2 and the handler do not run, the value comes back with the outer mark. -/
example :
    run [⟨0, .modRes⟩, ⟨1, .short (.okv 7)⟩, ⟨2, .pass⟩] (fun r => .ok (.handler r.mods) []) {} =
      ([.before 0 [], .before 1 [], .after 0 (.ok (.short 7) [])], .ok (.short 7) [0]) := by decide

/-- a failing stage on the legacy SSE server, the stages registered by two options: the client gets −32603 with the
    message, and the result-modifying stage inside the failing one does not run. -/
example :
    serve codeFacts .sse [[⟨0, .pass⟩], [⟨1, .fail t!"boom"⟩, ⟨2, .modRes⟩]] (fun r => .ok (.handler r.mods) []) (.request {}) =
      ([.before 0 [], .before 1 [], .after 0 (.err t!"boom")], some (.error (-32603) t!"boom" [])) := by decide

/-- the hypotheses of `C15_short` / `C15_inside_silent` are satisfiable with a non-empty inside. -/
example : (stopper [⟨0, .modReq⟩, ⟨1, .short (.rpc (-32000) t!"no")⟩, ⟨2, .pass⟩, ⟨3, .fail t!"x"⟩]).isSome = true
    ∧ inside [⟨0, .modReq⟩, ⟨1, .short (.rpc (-32000) t!"no")⟩, ⟨2, .pass⟩, ⟨3, .fail t!"x"⟩] = [⟨2, .pass⟩, ⟨3, .fail t!"x"⟩]
    ∧ ([0, 1, 2, 3] : List Nat).Nodup := by decide

/-- the reversed loop would not be an onion in registration order (the model family is not trivial in the fact). -/
example :
    tags (applyMiddlewares { firstOutermost := false, notifBypass := true, codeStreamable := -32603, codeSSE := -32603 }
      [⟨0, .pass⟩, ⟨1, .pass⟩] (core (fun r => .ok (.handler r.mods) [])) {}).1
      = [.b 1, .b 0, .h, .a 0, .a 1] := by decide

/-- the predicate rejects a table that contains an option closure, a method, a doubled constructor site, an unclassified
    site, and the empty table (a renamed field); it accepts exactly the constructors. -/
example :
    handlerNotReplaced [t!"NewSSEServer", t!"Server.initComponents", t!"WithSSEServerLogger.func1"] = false
    ∧ handlerNotReplaced [t!"NewSSEServer", t!"SSEServer.SetLogger", t!"Server.initComponents"] = false
    ∧ handlerNotReplaced [t!"NewSSEServer", t!"NewSSEServer", t!"Server.initComponents"] = false
    ∧ handlerNotReplaced [t!"NewSSEServer", t!"NewSSEServer:address-taken", t!"Server.initComponents"] = false
    ∧ handlerNotReplaced [] = false
    ∧ handlerNotReplaced [t!"NewSSEServer", t!"Server.initComponents"] = true := by decide

/-- an interleaving on the legacy SSE server at today's facts: logger, context function and base path between three
    middleware options — the chain is all registered stages in order. -/
example :
    serveX codeFacts codeWriters .sse
      [.mw [⟨0, .modReq⟩], .other t!"WithSSEServerLogger", .mw [⟨1, .pass⟩], .other t!"WithSSEContextFunc", .other t!"WithBasePath",
       .mw [⟨2, .modRes⟩]] (fun r => .ok (.handler r.mods) []) (.request {}) =
      ([.before 0 [], .before 1 [0], .before 2 [0], .handler [0], .after 2 (.ok (.handler [0]) []),
        .after 1 (.ok (.handler [0]) [2]), .after 0 (.ok (.handler [0]) [2])], some (.result (.handler [0]) [2])) := by decide

/-- the dispatch predicate accepts exactly the straight-line shapes: a gate (`select` with `default`), an early return,
    a hand-over hidden in a closure, an extra guard in front of the chain, a `select` on the Streamable path, a missing
    function are all rejected. -/
example :
    dispatchNeverDrops sseDispatchDirect sseProcessDirect true 0 = true
    ∧ dispatchNeverDrops [t!"decl", t!"unmarshal-guard", t!"select-default", t!"go-other"] sseProcessDirect true 0 = false
    ∧ dispatchNeverDrops [t!"decl", t!"unmarshal-guard", t!"if-other", t!"go-dispatch"] sseProcessDirect true 0 = false
    ∧ dispatchNeverDrops [t!"decl", t!"unmarshal-guard", t!"go-other"] sseProcessDirect true 0 = false
    ∧ dispatchNeverDrops sseDispatchDirect [t!"detach", t!"if-other", t!"roots-response-guard"] true 0 = false
    ∧ dispatchNeverDrops sseDispatchDirect [t!"detach", t!"roots-response-guard", t!"missing-dispatch"] true 0 = false
    ∧ dispatchNeverDrops sseDispatchDirect sseProcessDirect false 0 = false
    ∧ dispatchNeverDrops sseDispatchDirect sseProcessDirect true 1 = false
    ∧ dispatchNeverDrops [t!"missing"] sseProcessDirect true 0 = false := by decide

/-- forty requests of one legacy SSE session in flight: the forty-first is served like any other at today's facts. -/
example :
    serveOverlapping codeFacts (codeGate .sse) .sse [[⟨0, .modReq⟩], [⟨1, .modRes⟩]] (fun r => .ok (.handler r.mods) []) 40 (.request {}) =
      ([.before 0 [], .before 1 [0], .handler [0], .after 1 (.ok (.handler [0]) []), .after 0 (.ok (.handler [0]) [1])],
        some (.result (.handler [0]) [1])) := by decide

end Mcp.Props.C15
