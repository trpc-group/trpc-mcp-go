/-
  C01 — Every call gets exactly one answer, and it is its own.

  Full statement (per transport): for every integer id 1 ≤ n ≤ 2^53 and every string id, `echoId (encodeId id)` being the
  id as the answer bears it (`wireOf n` for the integer `n`),
      keyOfWire k (echoId (encodeId id)) = keyOfReq k id                              (`C01_key_roundtrip`, `_string`)
  and, for every schedule, every completed call got the frame whose id is its own, or an error; at most once; and
  a frame delivered while the call is pending and the connection is up completes the call.

  Since the D01 repair the legacy SSE client table and the Streamable client's POST-SSE matcher render ids with the one
  helper `requestIDKey` (key kind `idKey`: "n:<digits>" / "s:<string>"), the stdio table keeps its `int64` keys: the round
  trip holds on all three transports up to 2^53 (`C01_key_roundtrip`), a string id never collides with a number
  (`C01_key_no_collision`). Which kind a table uses is a regenerated, decided fact (`C01_fact_tables`,
  `C01_fact_post_sse_matcher`).
  The `%v` kind of the tree before the repair is kept as an explicit bad region of the family: a decoded JSON number is a
  float64 and `fmt.Sprintf("%v", float64(1000000)) = "1e+06"` while the request side renders `"1000000"` —
  `C01_key_roundtrip_partial` (n < 10^6), `C01_key_counterexample`, `C01_key_mismatch_from_1e6`, the schedule-level
  witnesses `C01_lost_answer_witness` / `C01_post_sse_lost_witness`, and `C01_sprintfV_collision_witness`.
  Safety (own answer, at most once) holds for every schedule on these three kinds (`goodKind`), wherever the counter
  starts, as long as it stays within 2^53 (`C01_stdio_unsound_beyond_2_53`).

  Server-side id echo: `C01_echo` in `Mcp.Props.C01Echo` (over the `Rpc` model of the three servers' request paths), plus the
  differential run of component `pending`, part iii (raw peers, six server modes, every id class).
-/
import Mcp.Model.Pending
import Mcp.Gen.PendingFacts
import Mcp.Gen.PendingClients
import Mcp.Lemmas.Keys
import Mcp.Props.C02Wire
namespace Mcp.Props.C01
open Mcp.Str Mcp.Ids Mcp.Pending

/-! ## key functions -/

/-- **stdio's `int64(float64)` path is exact up to 2^53.** -/
theorem C01_f64_exact (n : Nat) (h : n ≤ 2 ^ 53) : f64OfNat n = n := f64OfNat_le h

/-- … and not beyond: 2^53+1 is not a float64; it decodes to 2^53. -/
theorem C01_f64_counterexample : f64OfNat (2 ^ 53 + 1) = 2 ^ 53 := by decide

/-- the kinds the three client transports use today: `requestIDKey` on both sides (legacy SSE table, Streamable POST-SSE
    matcher), `int64` (stdio table). -/
def kindToday (k : KeyKind) : Prop := k = .idKey ∨ k = .int64

/-- **Key round trip — all three transports**: for every id the counter can issue, 1 ≤ n ≤ 2^53, the key computed from the
    id of the answer (encoded by the client, decoded and re-encoded by the server, decoded by the client into a float64)
    is the key the request was registered under. -/
theorem C01_key_roundtrip (k : KeyKind) (hk : kindToday k) (n : Nat) (h1 : 1 ≤ n) (h : n ≤ 2 ^ 53) :
    keyOfWire k (wireOf n) = keyOfReq k (.int (Int.ofNat n)) :=
  have _ := h1  -- the round trip holds at 0 too
  key_roundtrip k (by rcases hk with rfl | rfl <;> nofun) h

/-- **No collision between a string id and a number** under `requestIDKey`: the string "7" and the integer 7 are different
    keys, on the request side and on the answer side. -/
theorem C01_key_no_collision (s : Text) (i : Int) (w : WireId) :
    keyOfReq .idKey (.str s) ≠ keyOfReq .idKey (.int i) ∧
    keyOfWire .idKey (.str s) ≠ keyOfReq .idKey (.int i) ∧
    (∀ v, decodeId w = .f64 v → keyOfWire .idKey w ≠ keyOfReq .idKey (.str s)) := by
  refine ⟨by simp [keyOfReq], by simp [keyOfWire, decodeId, keyOfDec, keyOfReq], ?_⟩
  intro v hv
  simp [keyOfWire, hv, keyOfDec, keyOfReq]

/-- … whereas the `%v` rendering of the tree before the repair confuses them: an answer bearing the string "5" is keyed like
    request 5. -/
theorem C01_sprintfV_collision_witness :
    keyOfWire .sprintfV (.str t!"5") = keyOfReq .sprintfV (.int 5) := by decide

private theorem sprintfV_keys {a : Nat} (c : Nat) (ha : a ≤ 2 ^ 53) :
    keyOfWire .sprintfV (wireOf a) = keyOfReq .sprintfV (.int (Int.ofNat c)) ↔ fmtVFloatNat a = natDigits c := by
  rw [keyOfWire_wireOf _ ha]
  exact ⟨fun h => Key.txt.inj (Option.some.inj h), fun h => congrArg (some ∘ Key.txt) h⟩

/-- **Key round trip of the `%v` kind (the tree before the D01 repair) — partial**: holds for the first 999 999 requests of
    a client only. -/
theorem C01_key_roundtrip_partial (n : Nat) (_h1 : 1 ≤ n) (h : n < 10 ^ 6) :
    keyOfWire .sprintfV (wireOf n) = keyOfReq .sprintfV (.int (Int.ofNat n)) :=
  (sprintfV_keys n (by omega)).2 (fmtVFloatNat_small (by omega))

/-- **Counterexample to the full round trip for the `%v` kind (D01)**: request number 1 000 000. The answer's id renders as `"1e+06"`,
    the request was registered as `"1000000"`. -/
theorem C01_key_counterexample :
    keyOfWire .sprintfV (wireOf 1000000) = some (.txt t!"1e+06") ∧
    keyOfReq .sprintfV (.int 1000000) = some (.txt t!"1000000") ∧
    keyOfWire .sprintfV (wireOf 1000000) ≠ keyOfReq .sprintfV (.int 1000000) := by decide

/-- … and it never recovers: from one million on no answer matches its request (up to 2^53). -/
theorem C01_key_mismatch_from_1e6 (n : Nat) (h1 : 10 ^ 6 ≤ n) (h : n ≤ 2 ^ 53) :
    keyOfWire .sprintfV (wireOf n) ≠ keyOfReq .sprintfV (.int (Int.ofNat n)) :=
  fun he => fmtVFloatNat_large_ne (by omega) n ((sprintfV_keys n h).1 he)

/-- **Key round trip for string ids** (`requestIDKey`, and the `%v` kind alike): a string id made of Unicode scalar values
    comes back as the same string (`json.Marshal` escaping, `json.Unmarshal` unescaping) and renders to the same key. -/
theorem C01_key_roundtrip_string (k : KeyKind) (hk : k = .idKey ∨ k = .sprintfV) (s : Text) (h : ∀ c ∈ s, Mcp.Props.C02.validScalar c) :
    keyOfWire k (echoId (encodeId (.str s))) = keyOfReq k (.str s) := by
  rcases hk with rfl | rfl <;>
    simp [keyOfWire, echoId, encodeId, decodeId, reencodeId, keyOfDec, keyOfReq, Mcp.Props.C02.C02_string_fidelity s h]

/-- A string id stays a string and an integer id stays an integer through an honest server's echo. -/
theorem C01_echo_kind (s : Text) (h : ∀ c ∈ s, Mcp.Props.C02.validScalar c) (n : Nat) (hn : n ≤ 2 ^ 53) :
    echoId (encodeId (.str s)) = encodeId (.str s) ∧ echoId (encodeId (.int (Int.ofNat n))) = encodeId (.int (Int.ofNat n)) :=
  ⟨by simp [echoId, encodeId, decodeId, reencodeId, Mcp.Props.C02.C02_string_fidelity s h], wireOf_le hn⟩

/-! ## key soundness and injectivity -/

/-- an answer keyed like a request is the answer to that request, for answers to ids up to `B`. -/
def KeySound (k : KeyKind) (B : Nat) : Prop :=
  ∀ a c, a ≤ B → keyOfWire k (wireOf a) = keyOfReq k (.int (Int.ofNat c)) → a = c

/-- the key kinds safety is proved for: the ones in use today (`idKey`, `int64`) and the `%v` kind of the tree before the
    repair (it loses answers, but never hands one to the wrong call). -/
def goodKind (k : KeyKind) : Prop := k = .idKey ∨ k = .sprintfV ∨ k = .int64

private theorem keyOfReq_inj {k : KeyKind} (hk : goodKind k) {a c : Nat}
    (h : keyOfReq k (.int (Int.ofNat a)) = keyOfReq k (.int (Int.ofNat c))) : a = c := by
  rcases hk with rfl | rfl | rfl <;>
    simp only [keyOfReq, fmtVInt, intText, Option.some.injEq, Key.txt.injEq, Key.num.injEq] at h
  · exact natDigits_inj (List.append_cancel_left h)
  · exact natDigits_inj h
  · exact Int.ofNat.inj h

/-- Where the round trip holds, soundness is injectivity of the request key; the `%v` kind is sound although it loses
    answers: its float rendering never equals the decimal rendering of another number (`fmtV_sound`). -/
private theorem keySound_of_good {k : KeyKind} (hk : goodKind k) : KeySound k (2 ^ 53) := by
  intro a c ha h
  by_cases hv : k = .sprintfV
  · subst hv; exact fmtV_sound ((sprintfV_keys c ha).1 h)
  · exact keyOfReq_inj hk ((key_roundtrip k hv ha).symm.trans h)

/-- Beyond 2^53 the stdio table is not sound any more: the answer to request 2^53+1 is keyed like request 2^53. -/
theorem C01_stdio_unsound_beyond_2_53 :
    keyOfWire .int64 (wireOf (2 ^ 53 + 1)) = keyOfReq .int64 (.int (2 ^ 53)) := by decide

/-! ## the protocol invariant -/

structure Inv (k : KeyKind) (s : St) : Prop where
  pend : ∀ e ∈ s.pending, e.call ≤ s.next ∧ keyOfReq k (.int (Int.ofNat e.call)) = some e.key
  pendNodup : (s.pending.map Entry.call).Nodup
  doneLe : ∀ x ∈ s.done, x.1 ≤ s.next
  doneNodup : (s.done.map Prod.fst).Nodup
  disj : ∀ e ∈ s.pending, e.call ∉ s.done.map Prod.fst
  sentLe : ∀ c ∈ s.sent, c ≤ s.next
  ansNodup : s.answered.Nodup
  wire : ∀ f ∈ s.wire, f.id = wireOf f.body ∧ f.body ≤ s.next
  slot : ∀ e ∈ s.pending, ∀ b, e.slot = some b → b = e.call
  own : ∀ x ∈ s.done, ∀ b, x.2 = .answer b → b = x.1

private theorem inv_init (k : KeyKind) (start : Nat) : Inv k (init start) := by
  constructor <;> simp [init]

private theorem forall_mem_snoc {α} {p : α → Prop} {l : List α} {a : α} : (∀ x ∈ l ++ [a], p x) ↔ (∀ x ∈ l, p x) ∧ p a := by
  rw [List.forall_mem_append, List.forall_mem_singleton]

private theorem nodup_snoc {α} {l : List α} {a : α} : (l ++ [a]).Nodup ↔ l.Nodup ∧ a ∉ l := by
  simp [List.nodup_append, List.forall_mem_ne']

private theorem fill_map_call (key : Key) (b : Nat) (p : List Entry) : (fill key b p).map Entry.call = p.map Entry.call := by
  induction p with
  | nil => rfl
  | cons e es ih =>
    simp only [fill]
    split
    · split <;> simp
    · simp [ih]

private theorem fill_mem {key : Key} {b : Nat} {p : List Entry} {e' : Entry} (h : e' ∈ fill key b p) :
    e' ∈ p ∨ ∃ e ∈ p, e.key = key ∧ e' = { e with slot := some b } := by
  induction p with
  | nil => exact .inl h
  | cons e es ih => grind [fill]

private theorem findCall_some {c : Nat} {p : List Entry} {e : Entry} (h : findCall c p = some e) : e ∈ p ∧ e.call = c := by
  induction p with
  | nil => cases h
  | cons x xs ih =>
    simp only [findCall] at h
    split at h
    · cases h; exact ⟨List.mem_cons_self .., ‹_›⟩
    · exact (ih h).imp_left (List.mem_cons_of_mem _)

private theorem closeOutcome_answer {e : Entry} {b : Nat} (h : (closeOutcome e).2 = .answer b) : e.slot = some b := by
  unfold closeOutcome at h
  split at h
  · next hsl => exact hsl.trans (congrArg some (Outcome.answer.inj h))
  · cases h

/-- What an honest event does to the state where the insert precedes the send. -/
private inductive Effect (k : KeyKind) (s : St) : St → Prop
  | issue (key : Key) (hk : keyOfReq k (.int (Int.ofNat (s.next + 1))) = some key) :
      Effect k s { s with next := s.next + 1, pending := s.pending ++ [⟨key, s.next + 1, none⟩], sent := s.sent ++ [s.next + 1] }
  | answer (c : Nat) (hs : c ∈ s.sent) (ha : c ∉ s.answered) :
      Effect k s { s with wire := s.wire ++ [⟨wireOf c, c⟩], answered := s.answered ++ [c] }
  | drop (i : Nat) : Effect k s { s with wire := s.wire.eraseIdx i }
  | fill (i : Nat) (f : Frame) (key : Key) (hf : f ∈ s.wire) (hk : keyOfWire k f.id = some key) :
      Effect k s { s with wire := s.wire.eraseIdx i, pending := fill key f.body s.pending }
  | finish (c : Nat) (e : Entry) (o : Outcome) (he : findCall c s.pending = some e) (ho : ∀ b, o = .answer b → e.slot = some b) :
      Effect k s { s with pending := removeCall c s.pending, done := s.done ++ [(c, o)] }
  | close : Effect k s { s with open_ := false, pending := [], done := s.done ++ s.pending.map closeOutcome }

private theorem step_effect {k : KeyKind} {s s' : St} {e : Ev} (he : e.honest = true) (h : step k true s e = some s') :
    Effect k s s' := by
  cases e with
  | inject f => cases he
  | register c => cases h
  | issue =>
    simp only [step] at h
    split at h
    · cases h
    · split at h
      · cases h
      · next key hk => cases h; exact .issue key hk
  | serverAnswer c =>
    simp only [step] at h
    split at h
    · next hc =>
      cases h
      have ⟨hs, ha⟩ : c ∈ s.sent ∧ c ∉ s.answered := by simpa using hc
      exact .answer c hs ha
    · cases h
  | deliver i =>
    simp only [step] at h
    split at h
    · cases h
    · next f hf =>
      split at h
      · cases h; exact .drop i
      · split at h
        · cases h; exact .drop i
        · next key hk => cases h; exact .fill i f key (List.mem_of_getElem? hf) hk
  | complete c =>
    simp only [step] at h
    split at h
    · next e he =>
      split at h
      · next b hb => cases h; exact .finish c e _ he fun b' hb' => Outcome.answer.inj hb' ▸ hb
      · cases h
    · cases h
  | timeout c | cancel c =>
    simp only [step] at h
    split at h
    · next e he => cases h; exact .finish c e _ he nofun
    · cases h
  | close =>
    simp only [step] at h
    split at h
    · cases h
    · cases h; exact .close

private theorem Effect.next_le {k : KeyKind} {s s' : St} (h : Effect k s s') : s.next ≤ s'.next := by
  cases h with
  | issue => exact Nat.le_succ _
  | _ => exact Nat.le_refl _

private theorem Effect.inv {k : KeyKind} {B : Nat} {s s' : St} (h : Effect k s s') (hs : KeySound k B) (hi : Inv k s)
    (hb : s'.next ≤ B) : Inv k s' := by
  cases h with
  | issue key hkey =>
    -- the new call's number is above everything issued so far
    have fresh : ∀ l : List Nat, (∀ c ∈ l, c ≤ s.next) → s.next + 1 ∉ l := fun l h hm => Nat.not_succ_le_self _ (h _ hm)
    exact { hi with
      pend := forall_mem_snoc.mpr
        ⟨fun x hx => ⟨Nat.le_succ_of_le (hi.pend x hx).1, (hi.pend x hx).2⟩, Nat.le_refl _, hkey⟩
      pendNodup := by
        rw [List.map_append, List.map_singleton]
        exact nodup_snoc.mpr ⟨hi.pendNodup, fresh _ (List.forall_mem_map.mpr fun x hx => (hi.pend x hx).1)⟩
      doneLe := fun x hx => Nat.le_succ_of_le (hi.doneLe x hx)
      disj := forall_mem_snoc.mpr ⟨hi.disj, fresh _ (List.forall_mem_map.mpr hi.doneLe)⟩
      sentLe := forall_mem_snoc.mpr ⟨fun c hc => Nat.le_succ_of_le (hi.sentLe c hc), Nat.le_refl _⟩
      wire := fun f hf => ⟨(hi.wire f hf).1, Nat.le_succ_of_le (hi.wire f hf).2⟩
      slot := forall_mem_snoc.mpr ⟨hi.slot, nofun⟩ }
  | answer c hc ha =>
    exact { hi with
      ansNodup := nodup_snoc.mpr ⟨hi.ansNodup, ha⟩
      wire := forall_mem_snoc.mpr ⟨hi.wire, rfl, hi.sentLe c hc⟩ }
  | drop i => exact { hi with wire := fun g hg => hi.wire g (List.mem_of_mem_eraseIdx hg) }
  | fill i f key hf hkey =>
    exact { hi with
      wire := fun g hg => hi.wire g (List.mem_of_mem_eraseIdx hg)
      pend := fun x hx => by rcases fill_mem hx with hm | ⟨e0, hm, -, rfl⟩ <;> exact (hi.pend _ hm :)
      pendNodup := by simpa [fill_map_call] using hi.pendNodup
      disj := fun x hx => by rcases fill_mem hx with hm | ⟨e0, hm, -, rfl⟩ <;> exact (hi.disj _ hm :)
      slot := fun x hx b hxb => by
        rcases fill_mem hx with hm | ⟨e0, hm, rfl, rfl⟩
        · exact hi.slot x hm b hxb
        · -- the frame went into the channel registered under its key: by soundness it is that call's own
          obtain rfl : f.body = b := Option.some.inj hxb
          have ⟨hid, hle⟩ := hi.wire f hf
          exact hs f.body e0.call (Nat.le_trans hle hb) ((hid ▸ hkey).trans (hi.pend e0 hm).2.symm) }
  | finish c e o hf ho =>
    obtain ⟨hem, rfl⟩ := findCall_some hf
    have rest : ∀ x ∈ removeCall e.call s.pending, x ∈ s.pending ∧ x.call ≠ e.call := fun x hx => by
      simpa [removeCall] using hx
    exact { hi with
      pend := fun x hx => hi.pend x (rest x hx).1
      pendNodup := hi.pendNodup.sublist (List.filter_sublist.map _)
      doneLe := forall_mem_snoc.mpr ⟨hi.doneLe, (hi.pend e hem).1⟩
      doneNodup := by
        rw [List.map_append, List.map_singleton, nodup_snoc]
        exact ⟨hi.doneNodup, hi.disj e hem⟩
      disj := fun x hx => by simpa [(rest x hx).2] using hi.disj x (rest x hx).1
      slot := fun x hx => hi.slot x (rest x hx).1
      own := forall_mem_snoc.mpr ⟨hi.own, fun b hb => hi.slot e hem b (ho b hb)⟩ }
  | close =>
    have hfst : (s.pending.map closeOutcome).map Prod.fst = s.pending.map Entry.call := by
      simp [List.map_map, Function.comp_def, closeOutcome]
    exact { hi with
      pend := nofun
      pendNodup := List.nodup_nil
      disj := nofun
      slot := nofun
      doneLe := List.forall_mem_append.mpr ⟨hi.doneLe, List.forall_mem_map.mpr fun e he => (hi.pend e he).1⟩
      doneNodup := by
        rw [List.map_append, hfst, List.nodup_append]
        exact ⟨hi.doneNodup, hi.pendNodup, fun a ha b hb hab =>
          let ⟨e, he, hc⟩ := List.mem_map.mp hb; hi.disj e he (hc ▸ hab ▸ ha)⟩
      own := List.forall_mem_append.mpr
        ⟨hi.own, List.forall_mem_map.mpr fun e he b hb => hi.slot e he b (closeOutcome_answer hb)⟩ }

private theorem run_induct (k : KeyKind) (ins : Bool) (P : St → Prop) (evs : List Ev)
    (hstep : ∀ s s' e, e ∈ evs → P s → step k ins s e = some s' → P s') :
    ∀ s s', P s → run k ins s evs = some s' → P s' := by
  induction evs with
  | nil => intro s s' h hr; exact Option.some.inj hr ▸ h
  | cons e es ih =>
    intro s s' h hr
    simp only [run] at hr
    split at hr
    · cases hr
    · next s1 hs1 =>
      exact ih (fun a b x hx => hstep a b x (List.mem_cons_of_mem _ hx)) s1 s' (hstep s s1 e (List.mem_cons_self ..) h hs1) hr

/-- The counter only grows, so its bound in the last state (2^53, where the keys stop being sound) holds in every state on
    the way. -/
private theorem reach {k : KeyKind} (hk : goodKind k) {start : Nat} {evs : List Ev} (hh : ∀ e ∈ evs, e.honest = true)
    {s : St} (hr : run k true (init start) evs = some s) (hb : s.next ≤ 2 ^ 53) : Inv k s :=
  run_induct k true (fun x => x.next ≤ 2 ^ 53 → Inv k x) evs
    (fun _ _ e he ha hab hbB =>
      have eff := step_effect (hh e he) hab
      eff.inv (keySound_of_good hk) (ha (Nat.le_trans eff.next_le hbB)) hbB)
    _ s (fun _ => inv_init k start) hr hb

/-- **Ids are unique**: whatever the schedule, the calls in flight carry pairwise different ids and pairwise
    different table keys (the counter never repeats, decimal rendering is injective), so a map insert never
    overwrites another call's channel. The model numbers every request from ONE counter per client (`St.next`): that
    every operation of the real clients draws its id from the client's own counter — none leaves the id to a
    transport-side fallback that counts separately — is the regenerated, decided fact `C01_fact_one_counter`. -/
theorem C01_ids_unique (k : KeyKind) (hk : goodKind k) (start : Nat) (evs : List Ev) (hh : ∀ e ∈ evs, e.honest = true)
    (s : St) (hr : run k true (init start) evs = some s) (hb : s.next ≤ 2 ^ 53) :
    (s.pending.map Entry.call).Nodup ∧
    ∀ e1 ∈ s.pending, ∀ e2 ∈ s.pending, e1.key = e2.key → e1.call = e2.call := by
  have hi := reach hk hh hr hb
  exact ⟨hi.pendNodup, fun e1 h1 e2 h2 hkey => keyOfReq_inj hk ((hi.pend e1 h1).2.trans (hkey ▸ (hi.pend e2 h2).2.symm))⟩

/-- **Own answer**: for every schedule of an honest server (each request answered once, in any order, after any
    delay), any interleaving of deliveries, wake-ups, timeouts, cancellations and a close: every completed call
    either carries an error or the body computed from its own request. No call ever receives another call's answer. -/
theorem C01_own_answer (k : KeyKind) (hk : goodKind k) (start : Nat) (evs : List Ev) (hh : ∀ e ∈ evs, e.honest = true)
    (s : St) (hr : run k true (init start) evs = some s) (hb : s.next ≤ 2 ^ 53) :
    ∀ c o, (c, o) ∈ s.done → o = .answer c ∨ o = .error := by
  intro c o hm
  cases o with
  | error => exact Or.inr rfl
  | answer b => exact Or.inl (congrArg _ ((reach hk hh hr hb).own _ hm b rfl))

/-- **At most once**: no call completes twice (no duplicate outcome), and the handler runs at most once per request. -/
theorem C01_at_most_once (k : KeyKind) (hk : goodKind k) (start : Nat) (evs : List Ev) (hh : ∀ e ∈ evs, e.honest = true)
    (s : St) (hr : run k true (init start) evs = some s) (hb : s.next ≤ 2 ^ 53) :
    (s.done.map Prod.fst).Nodup ∧ s.answered.Nodup ∧ (∀ e ∈ s.pending, e.call ∉ s.done.map Prod.fst) := by
  have hi := reach hk hh hr hb
  exact ⟨hi.doneNodup, hi.ansNodup, hi.disj⟩

private theorem eq_of_nodup_map {α β} {f : α → β} {l : List α} (h : (l.map f).Nodup) :
    ∀ ⦃x⦄, x ∈ l → ∀ ⦃y⦄, y ∈ l → f x = f y → x = y :=
  have h := List.pairwise_map.mp h
  List.Pairwise.forall_of_forall_of_flip (fun _ _ _ => rfl) (h.imp fun hne he => absurd he hne)
    (h.imp fun hne he => absurd he.symm hne)

private theorem fill_hit {p : List Entry} {e : Entry} (b : Nat) (he : e ∈ p) (hsl : e.slot = none)
    (hkey : ∀ x ∈ p, x.key = e.key → x = e) (hcall : ∀ x ∈ p, x.call = e.call → x = e) :
    findCall e.call (fill e.key b p) = some { e with slot := some b } := by
  induction p with
  | nil => cases he
  | cons x xs ih =>
    by_cases hx : x = e
    · subst hx; simp [fill, findCall, hsl]
    · have hk : x.key ≠ e.key := fun h => hx (hkey x (List.mem_cons_self ..) h)
      have hc : x.call ≠ e.call := fun h => hx (hcall x (List.mem_cons_self ..) h)
      simp only [fill, findCall, if_neg hk, if_neg hc]
      exact ih ((List.mem_cons.mp he).resolve_left (Ne.symm hx)) (fun y hy => hkey y (List.mem_cons_of_mem _ hy))
        fun y hy => hcall y (List.mem_cons_of_mem _ hy)

/-- **Delivered if connected**: in any reachable state with the connection up, if call `c` is waiting (empty channel)
    and its answer is the i-th frame in flight and the key round trip holds for `c`, then delivering that frame fills
    `c`'s channel and `c`'s wake-up completes the call with its own answer. -/
theorem C01_delivered_if_connected (k : KeyKind) (hk : goodKind k) (start : Nat) (evs : List Ev) (hh : ∀ e ∈ evs, e.honest = true)
    (s : St) (hr : run k true (init start) evs = some s) (hb : s.next ≤ 2 ^ 53)
    (c : Nat) (e : Entry) (he : e ∈ s.pending) (hc : e.call = c) (hsl : e.slot = none) (ho : s.open_ = true)
    (i : Nat) (hf : s.wire[i]? = some ⟨wireOf c, c⟩)
    (hrt : keyOfWire k (wireOf c) = keyOfReq k (.int (Int.ofNat c))) :
    ∃ s1 s2, step k true s (.deliver i) = some s1 ∧ step k true s1 (.complete c) = some s2 ∧ (c, Outcome.answer c) ∈ s2.done := by
  subst hc
  obtain ⟨hnd, huniq⟩ := C01_ids_unique k hk start evs hh s hr hb
  have hkey : keyOfWire k (wireOf e.call) = some e.key := hrt.trans ((reach hk hh hr hb).pend e he).2
  have hcall : ∀ x ∈ s.pending, x.call = e.call → x = e := fun x hx => eq_of_nodup_map hnd hx he
  have hfc := fill_hit e.call he hsl (fun x hx h => hcall x hx (huniq x hx e he h)) hcall
  refine ⟨{ s with wire := s.wire.eraseIdx i, pending := fill e.key e.call s.pending }, ?_⟩
  refine ⟨{ s with wire := s.wire.eraseIdx i, pending := removeCall e.call (fill e.key e.call s.pending),
                   done := s.done ++ [(e.call, .answer e.call)] }, ?_, ?_, ?_⟩
  · simp [step, hf, ho, hkey]
  · simp [step, hfc]
  · simp

/-- **Schedule-level witness of D01** on a `%v`-keyed table (the tree before the repair): a client whose counter stands at 999 999 issues its next
    request; the server answers it; the reader delivers the answer — and drops it as "unknown request ID". The call is
    still waiting with an empty channel and nothing is in flight: it can only end by timeout or cancellation although
    the connection is up. -/
theorem C01_lost_answer_witness :
    ∃ s, run .sprintfV true (init 999999) [.issue, .serverAnswer 1000000, .deliver 0] = some s ∧
      s.wire = [] ∧ s.open_ = true ∧ s.done = [] ∧
      s.pending = [⟨.txt t!"1000000", 1000000, none⟩] := by
  refine ⟨_, rfl, ?_⟩; decide

/-- the same history on today's tables (`requestIDKey`, and stdio's `int64`) completes the call. -/
theorem C01_1e6_ok :
    (∃ s, run .idKey true (init 999999) [.issue, .serverAnswer 1000000, .deliver 0, .complete 1000000] = some s ∧
      s.done = [(1000000, .answer 1000000)] ∧ s.pending = []) ∧
    (∃ s, run .int64 true (init 999999) [.issue, .serverAnswer 1000000, .deliver 0, .complete 1000000] = some s ∧
      s.done = [(1000000, .answer 1000000)] ∧ s.pending = []) := by
  refine ⟨⟨_, rfl, ?_⟩, ⟨_, rfl, ?_⟩⟩ <;> decide

/-- **Witness for the region "insert after send"** (a tree in which the issuing function puts the request on the wire before
    it registers its channel — all the schedule theorems above are about `run k true`, the region in which the insert comes
    first, a regenerated and decided fact: `C01_fact_insert_before_send`): the request goes out, the server answers, the reader
    dispatches the answer — no entry yet, the frame is dropped — and only then the caller registers: it waits with an empty
    channel, nothing is in flight, the connection is up. With the insert first the same answer completes the call. -/
theorem C01_late_insert_witness :
    (∃ s, run .int64 false (init 0) [.issue, .serverAnswer 1, .deliver 0, .register 1] = some s ∧
      s.wire = [] ∧ s.open_ = true ∧ s.done = [] ∧ s.pending = [⟨.num 1, 1, none⟩]) ∧
    (∃ s, run .idKey false (init 0) [.issue, .serverAnswer 1, .deliver 0, .register 1] = some s ∧
      s.wire = [] ∧ s.open_ = true ∧ s.done = [] ∧ s.pending = [⟨.txt t!"n:1", 1, none⟩]) ∧
    (∃ s, run .int64 true (init 0) [.issue, .serverAnswer 1, .deliver 0, .complete 1] = some s ∧
      s.done = [(1, .answer 1)] ∧ s.pending = []) := by
  refine ⟨⟨_, rfl, ?_⟩, ⟨_, rfl, ?_⟩, ⟨_, rfl, ?_⟩⟩ <;> decide

/-! ## Streamable HTTP (answer on the POST's own response) -/

/-- **POST-SSE, own answer**: whatever events an honest server writes before the result on the response of call `c`'s
    POST (notifications only — the stream belongs to this request), the call returns its own answer, provided the key
    round trip holds for `c` (it does for every `c ≤ 2^53` on today's matcher: `C01_key_roundtrip`). -/
theorem C01_post_sse_own (k : KeyKind) (c : Nat) (n : Nat)
    (hrt : keyOfWire k (wireOf c) = keyOfReq k (.int (Int.ofNat c))) :
    scanPostSse k c (List.replicate n .notification ++ [.frame ⟨wireOf c, c⟩]) = .answer c := by
  induction n with
  | zero => simp [scanPostSse, hrt]
  | succ n ih => simpa [List.replicate_succ, scanPostSse] using ih

/-- A frame is accepted by the POST-SSE matcher only if it carries the call's own id (ids up to 2^53). -/
theorem C01_post_sse_sound (k : KeyKind) (hk : goodKind k) (c : Nat) (hc : c ≤ 2 ^ 53) (evs : List PostEv)
    (hall : ∀ ev ∈ evs, ev = .notification ∨ ∃ b, b ≤ 2 ^ 53 ∧ ev = .frame ⟨wireOf b, b⟩) :
    scanPostSse k c evs = .error ∨ scanPostSse k c evs = .answer c := by
  have _ := hc  -- only the ids on the frames have to survive the wire
  induction evs with
  | nil => exact .inl rfl
  | cons ev rest ih =>
    have hrest := ih fun x hx => hall x (List.mem_cons_of_mem _ hx)
    rcases hall ev List.mem_cons_self with rfl | ⟨b, hb, rfl⟩
    · exact hrest
    · simp only [scanPostSse]
      split
      · next heq => exact .inr (congrArg _ (keySound_of_good hk b c hb heq))
      · exact hrest

/-- **D01 on the Streamable client in SSE mode (the `%v` matcher of the tree before the repair)**: the millionth request's
    own answer is not recognised; the stream ends and the call fails with "connection closed but no final response
    received". With `requestIDKey` the same stream yields the answer. -/
theorem C01_post_sse_lost_witness :
    scanPostSse .sprintfV 1000000 [.notification, .frame ⟨wireOf 1000000, 1000000⟩] = .error ∧
    scanPostSse .sprintfV 999999 [.notification, .frame ⟨wireOf 999999, 999999⟩] = .answer 999999 ∧
    scanPostSse .idKey 1000000 [.notification, .frame ⟨wireOf 1000000, 1000000⟩] = .answer 1000000 := by decide

/-- JSON answers are not matched by id at all: the body of the POST's response is the outcome (correlation is the
    HTTP exchange itself). -/
theorem C01_post_json_unchecked (f : Frame) : readPostJson f = .answer f.body := rfl

/-! ## regenerated facts (T-gen) -/

/-- The five pending tables are keyed as modelled: `requestIDKey` on both sides of the legacy SSE client table and of the
    Streamable server's table, the stdio client's `int64` table, the two `uint64` server tables; every insert has its
    deferred delete; the functions that read each table are exactly the modelled lookup functions. A changed key expression
    changes `kind`, a new function reading a table changes `readSites`. -/
theorem C01_fact_tables :
    Mcp.Gen.pdTables.map (fun t => (t.name, t.insertKind, t.lookupKinds, t.deferredDelete, t.readSites)) =
      [ (t!"sse_client.responses", t!"idKey", [t!"idKey"], true, [t!"sseClientTransport.handleResponse"]),
        (t!"sse_server.responses", t!"uint64OfInt64", [t!"parseRequestID", t!"parseRequestID"], true,
          [t!"SSEServer.handleResponseMessage", t!"SSEServer.handleRootsListResponse"]),
        (t!"stdio_client.pendingRequests", t!"int64Assert", [t!"int64OfFloat64", t!"int64OfFloat64"], true,
          [t!"stdioClientTransport.handleErrorResponse", t!"stdioClientTransport.handleResponse"]),
        (t!"stdio_server.responses", t!"uint64OfInt64", [t!"parseRequestID"], true, [t!"stdioServerInternal.HandleResponse"]),
        (t!"streamable_server.pendingRequests", t!"idKey", [t!"idKey"], true, [t!"responseManager.DeliverResponse"]) ] := by decide

/-- **One id counter per client**: every method of `Client` and `StdioClient` that issues a request through its transport
    builds it with an id taken from the client's own counter (`c.requestID.Add(1)`) — so the transport-side fallback
    (`if req.ID == nil { req.ID = t.requestID.Add(1) }` in `stdioClientTransport.sendRequest`, a second counter starting at 1
    that feeds the same pending table) is never reached from the client's operations. Two counters would hand the same
    number to two calls in flight: the second registration overwrites the first call's channel. -/
theorem C01_fact_one_counter :
    Mcp.Gen.pdClientOps.all (fun o => o.idSource = t!"clientCounter") = true ∧ 14 ≤ Mcp.Gen.pdClientOps.length ∧
    Mcp.Gen.pdIdFallbacks = [t!"stdioClientTransport.sendRequest"] := by decide

/-- In every issuing function the pending entry is inserted before the request is put on the wire (client tables: before
    `encoder.Encode` / the POST; server tables: before the frame is queued or written): an answer cannot be dispatched
    before its entry exists. This is the region `ins = true` the schedule theorems are about. -/
theorem C01_fact_insert_before_send : Mcp.Gen.pdTables.all (·.insertBeforeSend) = true := by decide

/-- The Streamable client's POST-SSE matcher compares `requestIDKey` renderings of both ids. -/
theorem C01_fact_post_sse_matcher : Mcp.Gen.pdPostSseMatcher = (t!"idKey", t!"idKey") := by decide

/-- The kinds the client tables use are the ones the theorems above are proved for. -/
theorem C01_fact_good_kinds : kindToday .idKey ∧ kindToday .int64 ∧ goodKind .idKey ∧ goodKind .int64 :=
  ⟨Or.inl rfl, Or.inr rfl, Or.inl rfl, Or.inr (Or.inr rfl)⟩

/-- Channel sends that can drop a frame (`select` with a `default:` branch), complete list. The client-side ones are the
    modelled `fill` (full 1-slot channel: a duplicate frame is dropped); the legacy SSE server's `eventQueue` sends drop an
    answer when 100 frames are queued (reported by the harness if it ever happens); `notifyUpdate` is the resource-subscription
    fan-out (not request/answer traffic). A new drop site changes the list. -/
theorem C01_fact_drop_sites :
    Mcp.Gen.pdDropSites.map (fun d => (d.file, d.func, d.chan)) =
      [ (t!"manager_resource.go", t!"notifyUpdate", t!"ch"),
        (t!"sse_client.go", t!"handleResponse", t!"responseChan"),
        (t!"sse_server.go", t!"SendRequest", t!"session.eventQueue"),
        (t!"sse_server.go", t!"handleRequestError", t!"session.eventQueue"),
        (t!"sse_server.go", t!"handleResponseMessage", t!"responseChan"),
        (t!"sse_server.go", t!"handleRootsListResponse", t!"responseChan"),
        (t!"sse_server.go", t!"handleRootsListResponse", t!"responseChan"),
        (t!"sse_server.go", t!"processRequestAsync", t!"session.eventQueue"),
        (t!"sse_server.go", t!"sendNotificationToSession", t!"session.notificationChannel"),
        (t!"sse_server.go", t!"sendSuccessResponse", t!"session.eventQueue"),
        (t!"stdio_server.go", t!"HandleResponse", t!"responseChan"),
        (t!"stdio_server.go", t!"HandleResponse", t!"responseChan"),
        (t!"stdio_server.go", t!"SendRequest", t!"session.MessageChannel()"),
        (t!"streamable_server.go", t!"DeliverResponse", t!"pending.responseChan"),
        (t!"transport_stdio.go", t!"handleErrorResponse", t!"respChan"),
        (t!"transport_stdio.go", t!"handleResponse", t!"respChan"),
        (t!"transport_stdio.go", t!"handleResponse", t!"respChan") ] := by decide

/-- **An initialize answer is computed from its own request's arguments**: the protocolVersion of the initialize result is the
    parameter of `buildInitializeResponse` (the version negotiated for this very request), and the only fields of the lifecycle
    manager — shared by every request on every session — written while an initialize is handled are the per-session
    `sessionStates[id]` entry and the capabilities (the same value whoever computes it). A per-request value parked in a
    manager field on its way into the answer changes one of the two. -/
theorem C01_fact_initialize_own_arguments :
    Mcp.Gen.pdInitializeVersionFromParam = true ∧
    Mcp.Gen.pdInitializeWrites = [t!"saveSessionState: m.sessionStates[session.GetID()]", t!"updateCapabilities: m.capabilities"] := by decide

/-! ## non-vacuity -/

-- three calls: 3 and 1 are answered (3 first) and complete; 2 times out, and its late answer is delivered and dropped as unknown
example : ∃ s, run .idKey true (init 0) [.issue, .issue, .issue, .serverAnswer 3, .serverAnswer 1, .deliver 0, .deliver 0,
      .complete 1, .timeout 2, .complete 3, .serverAnswer 2, .deliver 0] = some s ∧
    s.done = [(1, .answer 1), (2, .error), (3, .answer 3)] ∧ s.pending = [] ∧ s.wire = [] := by
  refine ⟨_, rfl, ?_⟩; decide

-- a dishonest duplicate frame for call 1 with another body finds the channel full and is dropped
example : ∃ s, run .int64 true (init 0) [.issue, .serverAnswer 1, .deliver 0, .inject ⟨wireOf 1, 77⟩, .deliver 0, .complete 1] = some s ∧
    s.done = [(1, .answer 1)] := by
  refine ⟨_, rfl, ?_⟩; decide

-- the hypotheses of `C01_delivered_if_connected` are satisfiable
example : ∃ s, run .idKey true (init 41) [.issue, .serverAnswer 42] = some s ∧ s.open_ = true ∧
    s.wire[0]? = some ⟨wireOf 42, 42⟩ ∧ s.pending = [⟨.txt t!"n:42", 42, none⟩] := by
  refine ⟨_, rfl, ?_⟩; decide

end Mcp.Props.C01
