/-
  C05 — Server-initiated traffic reaches exactly the addressed session.

  Full statement: a notification / request sent inside session `s` is written once, in sending order (per kind), on `s`'s
  stream and on no other; a broadcast / filtered send reaches every selected session with an open stream once and reports
  that number; the answer accepted for a server-issued request was posted by the session the request was sent to; answer /
  timeout / cancel leave nothing pending.

  The model is a family indexed by structural facts of the source (`Facts`, regenerated and decided: `C05_fact_region`).
  Since the repairs of D01, D13 and D14 the source is in the good region and the full statement holds for today's facts
  (`C05_answer_from_addressee_today`, `C05_sse_notification_today`, `C05_nothing_left`, `C05_key_roundtrip`). The bad
  regions stay in the family, with their witnesses as theorems about explicit bad facts:
  * D13 — a lookup that does not look at the posting session accepts a foreign session's answer
    (`C05_answer_from_addressee_counterexample`, Streamable and legacy SSE);
  * D14 — if nothing ever marks a legacy SSE session initialized, `sendNotificationToSession` refuses every send
    (`C05_sse_notification_counterexample`);
  * D01 — a `%v`-keyed Streamable table loses even the addressee's answer from request number 10^6 on
    (`C05_answer_lost_witness`).
-/
import Mcp.Model.Routing
import Mcp.Model.RoutingToday
import Mcp.Gen.PendingFacts
import Mcp.Lemmas.Keys
namespace Mcp.Props.C05
open Mcp.Str Mcp.Ids Mcp.Routing
open Mcp.Pending (Key KeyKind WireId keyOfReq keyOfWire)

def WF (s : St) : Prop := s.sessions.Nodup ∧ ∀ a ∈ s.sessions, a < s.nextSid

private theorem wf_del (s : St) (a : Nat) (h : WF s) :
    (s.sessions.filter (· ≠ a)).Nodup ∧ ∀ x ∈ s.sessions.filter (· ≠ a), x < s.nextSid :=
  ⟨h.1.sublist List.filter_sublist, fun x hx => h.2 x (List.mem_filter.mp hx).1⟩

private theorem wf_new (s : St) (h : WF s) :
    (s.sessions ++ [s.nextSid]).Nodup ∧ ∀ x ∈ s.sessions ++ [s.nextSid], x < s.nextSid + 1 := by
  refine ⟨List.nodup_append.mpr ⟨h.1, by simp, fun a ha b hb hab => ?_⟩,
    List.forall_mem_append.mpr ⟨fun x hx => Nat.lt_succ_of_lt (h.2 x hx), by simp⟩⟩
  cases List.mem_singleton.mp hb
  exact Nat.lt_irrefl _ (hab ▸ h.2 a ha)

/-- The transitions of the model, by the fields they touch: a refusal changes nothing; session and stream operations
    touch the session table only; a send appends one notification for each session of a list without repetitions (a
    single send: the list of one); a request that gets no further than the counter; an issued request; a posted answer;
    a request that returns (answered, timed out or cancelled). -/
private inductive Effect (f : Facts) (s : St) (op : Op) : St → Prop
  | idle : Effect f s op s
  | table (n : Nat) (ss st br : List Nat) (hw : WF s → ss.Nodup ∧ ∀ a ∈ ss, a < n) :
      Effect f s op { s with nextSid := n, sessions := ss, streams := st, broken := br }
  | notify (l : List Nat) (m : Nat) (hl : WF s → l.Nodup) (ht : opTags .notif [op] = [m]) :
      Effect f s op { s with delivered := s.delivered ++ l.map (notifFrame · m) }
  | counter : Effect f s op { s with nextId := s.nextId + 1 }
  | issue (key : Key) (a m : Nat) (ht : opTags .req [op] = [m]) :
      Effect f s op { s with nextId := s.nextId + 1, pending := s.pending ++ [⟨key, a, m, none⟩],
                             waiting := s.waiting ++ [m], delivered := s.delivered ++ [(a, ⟨.req, a, m⟩)] }
  | fill (key : Key) (p pl : Nat) : Effect f s op { s with pending := fillP f.answerChecksSession key p pl s.pending }
  | finish (m : Nat) (e : PEntry) (ans : Option (Nat × Nat)) (pd : List PEntry) (he : findTag m s.pending = some e)
      (ha : ans = none ∨ ans = e.slot) (hp : pd = removeTag m s.pending ∨ (f.deferredDelete = false ∧ pd = s.pending)) :
      Effect f s op { s with pending := pd, waiting := s.waiting.filter (· ≠ m), results := s.results ++ [⟨m, e.to, ans⟩] }

private theorem step_request (srv : Server) (f : Facts) (s : St) (a m : Nat) :
    (∃ key, step srv f s (.request a m) =
      ({ s with nextId := s.nextId + 1, pending := s.pending ++ [⟨key, a, m, none⟩], waiting := s.waiting ++ [m],
                delivered := s.delivered ++ [(a, ⟨.req, a, m⟩)] }, .issued (s.nextId + 1))) ∨
    ∃ e, step srv f s (.request a m) = (s, .err e) ∨ step srv f s (.request a m) = ({ s with nextId := s.nextId + 1 }, .err e) := by
  generalize hx : step srv f s (.request a m) = x
  simp only [step] at hx
  repeat' split at hx
  all_goals subst hx
  · exact .inr ⟨_, .inl rfl⟩  -- stateless
  · exact .inr ⟨_, .inl rfl⟩  -- no such session
  · exact .inr ⟨_, .inr rfl⟩  -- no stream
  · exact .inr ⟨_, .inr rfl⟩  -- the write fails
  · exact .inr ⟨_, .inr rfl⟩  -- no key for the id
  · exact .inl ⟨_, rfl⟩

private theorem step_effect (srv : Server) (f : Facts) (s : St) (op : Op) : Effect f s op (step srv f s op).1 := by
  cases op with
  | newSession =>
    simp only [step]; split
    · exact .idle  -- stateless
    · exact .table _ _ _ _ (wf_new s)  -- Streamable
    · exact .table _ _ _ _ (wf_new s)  -- legacy SSE
    · exact .idle  -- stdio
  | delSession a =>
    simp only [step]; split
    · exact .table _ _ _ _ (wf_del s a)
    · exact .idle
  | openStream a | breakStream a =>
    simp only [step]; split
    · split
      · exact .table _ _ _ _ id
      · exact .idle
    · exact .idle
  | closeStream a =>
    simp only [step]; split
    · exact .table _ _ _ _ id
    · exact .table _ _ _ _ (wf_del s a)
    · exact .idle
  | send a m =>
    simp only [step]; split
    · exact .idle
    · split
      · exact .notify [a] m (fun _ => by simp) rfl
      · exact .idle
  | broadcast m =>
    simp only [step]; split
    · exact .idle
    · exact .notify _ m (fun hw => hw.1.sublist List.filter_sublist) rfl
    · exact .idle
  | filtered sel m =>
    simp only [step]; split
    · exact .idle
    · exact .notify _ m (fun hw => (hw.1.sublist List.filter_sublist).sublist List.filter_sublist) rfl
    · exact .idle
  | request a m =>
    rcases step_request srv f s a m with ⟨key, h⟩ | ⟨e, h | h⟩ <;> rw [h]
    · exact .issue key a m rfl
    · exact .idle
    · exact .counter
  | postAnswer p idw pl =>
    simp only [step]; split
    · exact .idle
    · split
      · exact .idle
      · split
        · exact .idle
        · exact .fill _ p pl
  | complete m =>
    simp only [step]; split
    · next e he =>
      split
      · next p pl hs => exact .finish m e _ _ he (.inr hs.symm) (.inl rfl)
      · exact .idle
    · exact .idle
  | timeout m | cancel m =>
    simp only [step]; split
    · next e he =>
      refine .finish m e none _ he (.inl rfl) ?_
      cases hd : f.deferredDelete <;> simp
    · exact .idle

private theorem Effect.wf {f : Facts} {s s' : St} {op : Op} (h : Effect f s op s') (hw : WF s) : WF s' := by
  cases h with
  | table n ss st br h => exact h hw
  | _ => exact hw

private theorem wf_init (srv : Server) (start : Nat) : WF (init srv start) := by
  cases srv <;> simp [init, WF]

private theorem run_cons (srv : Server) (f : Facts) (s : St) (o : Op) (os : List Op) :
    run srv f s (o :: os) = ((run srv f (step srv f s o).1 os).1, (step srv f s o).2 :: (run srv f (step srv f s o).1 os).2) := by
  simp [run]

private theorem run_inv (srv : Server) (f : Facts) (P : St → Prop) (hstep : ∀ s op, P s → P (step srv f s op).1)
    (ops : List Op) : ∀ s, P s → P (run srv f s ops).1 := by
  induction ops with
  | nil => intro s h; exact h
  | cons o os ih => intro s h; rw [run_cons]; exact ih _ (hstep s o h)

private theorem wf_run (srv : Server) (f : Facts) (ops : List Op) : ∀ s, WF s → WF (run srv f s ops).1 :=
  run_inv srv f WF (fun s op => (step_effect srv f s op).wf) ops

/-! ## isolation -/

/-- **Isolation**: for every history of sends, broadcasts, filtered sends, requests, posts, stream and session changes,
    on every server kind: a frame written on the stream of session `s'` was addressed to `s'`. -/
theorem C05_isolated (srv : Server) (f : Facts) (start : Nat) (ops : List Op) :
    ∀ x ∈ (run srv f (init srv start) ops).1.delivered, x.2.to = x.1 := by
  refine run_inv srv f (fun s => ∀ x ∈ s.delivered, x.2.to = x.1) ?_ ops _ (by cases srv <;> simp [init])
  intro s op h
  generalize (step srv f s op).1 = s', step_effect srv f s op = he
  cases he with
  | notify l m => exact List.forall_mem_append.mpr ⟨h, List.forall_mem_map.mpr fun _ _ => rfl⟩
  | issue key a m => exact List.forall_mem_append.mpr ⟨h, List.forall_mem_singleton.mpr rfl⟩
  | _ => exact h

/-! ## once, in sending order, per kind -/

private theorem nodup_filter_eq (l : List Nat) (a : Nat) (h : l.Nodup) : l.filter (· = a) = if a ∈ l then [a] else [] := by
  rw [List.filter_eq, h.count]; split <;> rfl

private def sel (a : Nat) (k : Kind) (l : List (Nat × Frame)) : List Nat :=
  (l.filter (fun x => x.1 = a ∧ x.2.kind = k)).map (fun x => x.2.tag)

private theorem sel_append (a : Nat) (k : Kind) (l1 l2 : List (Nat × Frame)) : sel a k (l1 ++ l2) = sel a k l1 ++ sel a k l2 := by
  simp [sel]

private theorem sel_notifs (a : Nat) (k : Kind) (l : List Nat) (m : Nat) (h : l.Nodup) :
    sel a k (l.map (notifFrame · m)) = if k = .notif ∧ a ∈ l then [m] else [] := by
  unfold sel
  rw [List.filter_map, List.map_map]
  cases k with
  | req => simp [notifFrame]
  | notif =>
    have : (fun x : Nat × Frame => decide (x.1 = a ∧ x.2.kind = .notif)) ∘ (notifFrame · m) = (fun b => decide (b = a)) := by
      funext b; simp [notifFrame]
    rw [this, nodup_filter_eq l a h]
    split <;> simp [notifFrame, *]

private theorem Effect.outbox {f : Facts} {s s' : St} {op : Op} (h : Effect f s op s') (hw : WF s) (a : Nat) (k : Kind) :
    ∃ y, sel a k s'.delivered = sel a k s.delivered ++ y ∧ y.Sublist (opTags k [op]) := by
  cases h with
  | notify l m hl ht =>
    refine ⟨_, sel_append .., ?_⟩
    rw [sel_notifs a k l m (hl hw)]
    cases k with
    | notif => rw [ht]; split <;> simp
    | req => simp
  | issue key b m ht =>
    refine ⟨_, sel_append .., ?_⟩
    cases k with
    | notif => simp [sel]
    | req => rw [ht]; by_cases hb : b = a <;> simp [sel, hb]
  | _ => exact ⟨[], (List.append_nil _).symm, List.nil_sublist _⟩

private theorem opTags_cons (k : Kind) (o : Op) (os : List Op) : opTags k (o :: os) = opTags k [o] ++ opTags k os := by
  cases o <;> simp [opTags]

/-- **Once, in sending order, per kind**: for every history, every session `a` and each kind of traffic, the tags of the
    frames written on `a`'s stream form a subsequence of the tags of the sends of that kind in sending order; hence, with
    one nonce per send, no frame is written twice and the order of sending is kept. (Which sends appear is settled by
    `C05_send_delivered_iff_ok`, `C05_request_delivered_iff_issued` and `C05_broadcast_count`.) -/
theorem C05_once_in_order (srv : Server) (f : Facts) (start : Nat) (ops : List Op) (a : Nat) (k : Kind) :
    (outboxTags (run srv f (init srv start) ops).1 a k).Sublist (opTags k ops) ∧
    ((opTags k ops).Nodup → (outboxTags (run srv f (init srv start) ops).1 a k).Nodup) := by
  have key : ∀ s, WF s → ∃ y, sel a k (run srv f s ops).1.delivered = sel a k s.delivered ++ y ∧ y.Sublist (opTags k ops) := by
    induction ops with
    | nil => intro s _; exact ⟨[], by simp [run], List.nil_sublist _⟩
    | cons o os ih =>
      intro s hw
      rw [run_cons]
      obtain ⟨y1, h1, hs1⟩ := (step_effect srv f s o).outbox hw a k
      obtain ⟨y2, h2, hs2⟩ := ih _ ((step_effect srv f s o).wf hw)
      refine ⟨y1 ++ y2, by rw [h2, h1, List.append_assoc], ?_⟩
      rw [opTags_cons]
      exact List.Sublist.append hs1 hs2
  obtain ⟨y, hy, hs⟩ := key _ (wf_init srv start)
  have h0 : sel a k (init srv start).delivered = [] := by cases srv <;> rfl
  rw [h0, List.nil_append] at hy
  rw [show outboxTags _ a k = y from hy]
  exact ⟨hs, hs.nodup⟩

/-- **A notification is written iff the send reports success**: `SendNotification(a, m)` returns `nil` exactly when the
    frame was appended to `a`'s stream; on an error nothing is written anywhere. -/
theorem C05_send_delivered_iff_ok (srv : Server) (f : Facts) (s : St) (a m : Nat) :
    ((step srv f s (.send a m)).2 = .ok ∧ (step srv f s (.send a m)).1.delivered = s.delivered ++ [(a, ⟨.notif, a, m⟩)]) ∨
    ((∃ e, (step srv f s (.send a m)).2 = .err e) ∧ (step srv f s (.send a m)).1 = s) := by
  simp only [step]
  split
  · exact Or.inr ⟨⟨_, rfl⟩, rfl⟩
  · split
    · exact Or.inl ⟨rfl, rfl⟩
    · exact Or.inr ⟨⟨_, rfl⟩, rfl⟩

/-- **A request frame is written iff the request was issued**, on the addressee's stream, together with its pending entry. -/
theorem C05_request_delivered_iff_issued (srv : Server) (f : Facts) (s : St) (a m : Nat) :
    (∃ id, (step srv f s (.request a m)).2 = .issued id ∧
        (step srv f s (.request a m)).1.delivered = s.delivered ++ [(a, ⟨.req, a, m⟩)] ∧
        ∃ key, (step srv f s (.request a m)).1.pending = s.pending ++ [⟨key, a, m, none⟩]) ∨
    ((∃ e, (step srv f s (.request a m)).2 = .err e) ∧ (step srv f s (.request a m)).1.delivered = s.delivered ∧
        (step srv f s (.request a m)).1.pending = s.pending) := by
  rcases step_request srv f s a m with ⟨key, h⟩ | ⟨e, h | h⟩ <;> rw [h]
  · exact .inl ⟨_, rfl, rfl, key, rfl⟩
  · exact .inr ⟨⟨e, rfl⟩, rfl, rfl⟩
  · exact .inr ⟨⟨e, rfl⟩, rfl, rfl⟩

/-! ## broadcast / filtered accounting -/

private theorem filter_frames (l : List Nat) (a m : Nat) (hl : l.Nodup) :
    (l.map (fun b => notifFrame b m)).filter (fun x => x.1 = a) = if a ∈ l then [notifFrame a m] else [] := by
  rw [List.filter_map]
  show (l.filter (· = a)).map _ = _
  rw [nodup_filter_eq l a hl]; split <;> rfl

private theorem count_reached (l : List Nat) (a m : Nat) (hl : l.Nodup) (ha : a ∈ l) :
    ((l.map (fun b => notifFrame b m)).filter (fun x => x.1 = a)).length = 1 := by
  rw [filter_frames l a m hl, if_pos ha]; rfl

private theorem count_unreached (l : List Nat) (a m : Nat) (hl : l.Nodup) (ha : a ∉ l) :
    (l.map (fun b => notifFrame b m)).filter (fun x => x.1 = a) = [] := by
  rw [filter_frames l a m hl, if_neg ha]

/-- **Broadcast count** (Streamable, stateful): `BroadcastNotification` returns as its count the number of active sessions
    that have an open stream whose write succeeds (`reaches`: a session whose stream is registered but fails its writes is
    one failure, it does not hide the sessions after it); exactly those sessions gain exactly one frame, tagged with this send and addressed to them,
    and no other stream gains anything. (When every session fails the call returns 0 and an error — 0 is again the number
    reached.) -/
theorem C05_broadcast_count (f : Facts) (s : St) (m : Nat) (hw : WF s) :
    let reached := s.sessions.filter (reaches s)
    let r := step (.streamable false) f s (.broadcast m)
    (r.2 = .count reached.length none ∨ (r.2 = .count 0 (some .allFailed) ∧ reached.length = 0)) ∧
    r.1.delivered = s.delivered ++ reached.map (fun a => (a, ⟨.notif, a, m⟩)) ∧
    (∀ a ∈ reached, ((reached.map (fun a => notifFrame a m)).filter (fun x => x.1 = a)).length = 1) ∧
    (∀ a, a ∉ reached → ((reached.map (fun a => notifFrame a m)).filter (fun x => x.1 = a)) = []) := by
  intro reached r
  have hnd : reached.Nodup := hw.1.sublist List.filter_sublist
  refine ⟨?_, rfl, fun a => count_reached reached a m hnd, fun a => count_unreached reached a m hnd⟩
  by_cases hc : s.sessions.length - reached.length = s.sessions.length ∧ s.sessions.length - reached.length > 0
  · have hle : reached.length ≤ s.sessions.length := List.length_filter_le _ _
    exact .inr ⟨if_pos hc, by omega⟩
  · exact .inl (if_neg hc)

/-- **Filtered count**: `SendFilteredNotification` reports (reached, failed) = (selected sessions with an open stream whose
    write succeeds, the other selected sessions — no stream, or a stream whose write fails); exactly the reached ones gain
    one frame each. -/
theorem C05_filtered_count (f : Facts) (s : St) (sl : List Nat) (m : Nat) (hw : WF s) :
    let chosen := s.sessions.filter (sl.contains ·)
    let reached := chosen.filter (reaches s)
    let r := step (.streamable false) f s (.filtered sl m)
    (r.2 = .counts reached.length (chosen.length - reached.length) none ∨
      (r.2 = .counts 0 (chosen.length - reached.length) (some .allFailed) ∧ reached.length = 0)) ∧
    r.1.delivered = s.delivered ++ reached.map (fun a => (a, ⟨.notif, a, m⟩)) ∧
    (∀ a ∈ reached, ((reached.map (fun a => notifFrame a m)).filter (fun x => x.1 = a)).length = 1) := by
  intro chosen reached r
  have hnd : reached.Nodup := (hw.1.sublist List.filter_sublist).sublist List.filter_sublist
  refine ⟨?_, rfl, fun a => count_reached reached a m hnd⟩
  by_cases hc : chosen.length - reached.length > 0 ∧ reached.length = 0
  · exact .inr ⟨if_pos hc, hc.2⟩
  · exact .inl (if_neg hc)

/-- **A session whose stream fails its writes does not hide the others**: whatever sessions are broken, every healthy
    selected session with an open stream is among the reached ones of a broadcast (it gains its one frame and is counted),
    and no broken or stream-less session is. -/
theorem C05_broadcast_reaches_every_healthy (f : Facts) (s : St) (m a : Nat) (ha : a ∈ s.sessions) :
    (hasStream s a = true ∧ s.broken.contains a = false ↔ a ∈ s.sessions.filter (reaches s)) ∧
    ((step (.streamable false) f s (.broadcast m)).1.delivered = s.delivered ++ (s.sessions.filter (reaches s)).map (fun b => (b, ⟨.notif, b, m⟩))) := by
  refine ⟨?_, rfl⟩
  simp [reaches, ha]

/-- a server with `n` sessions, every one of them with an open, healthy stream. -/
def allOpen (n : Nat) : St := { nextSid := n, sessions := List.range n, streams := List.range n }

/-- the history the harness drives for size `n`: `n` sessions, `n` streams. -/
def openAll (n : Nat) : List Op := (List.range n).map (fun _ => Op.newSession) ++ (List.range n).map Op.openStream

private theorem broadcast_all_reach (f : Facts) (s : St) (m : Nat) (h : ∀ a ∈ s.sessions, reaches s a = true) :
    step (.streamable false) f s (.broadcast m) =
      ({ s with delivered := s.delivered ++ s.sessions.map (notifFrame · m) }, .count s.sessions.length none) := by
  simp only [step, List.filter_eq_self.mpr h]
  congr 1
  apply if_neg
  omega

private theorem filtered_all_reach (f : Facts) (s : St) (sel : List Nat) (m : Nat) (h : ∀ a ∈ s.sessions, reaches s a = true) :
    step (.streamable false) f s (.filtered sel m) =
      ({ s with delivered := s.delivered ++ (s.sessions.filter (sel.contains ·)).map (notifFrame · m) },
       .counts (s.sessions.filter (sel.contains ·)).length 0 none) := by
  have h' : (s.sessions.filter (sel.contains ·)).filter (reaches s) = s.sessions.filter (sel.contains ·) :=
    List.filter_eq_self.mpr fun a ha => h a (List.mem_filter.mp ha).1
  simp only [step, h']
  congr 1
  rw [if_neg (by omega), Nat.sub_self]

private theorem reaches_of_open (s : St) (hs : ∀ a ∈ s.sessions, a ∈ s.streams) (hb : s.broken = []) :
    ∀ a ∈ s.sessions, reaches s a = true := by
  intro a ha; simp [reaches, hasStream, hs a ha, hb]

/-- **Every session with an open stream, for every number of sessions**: with `n ≥ 1` sessions that all have a healthy
    stream a broadcast answers `n` and writes exactly one frame to every one of the `n` sessions; a filtered send answers the
    number of selected sessions (none failed) and writes one frame to each of those and none to the others. -/
theorem C05_broadcast_all_open (f : Facts) (n m : Nat) (hn : 0 < n) :
    let r := step (.streamable false) f (allOpen n) (.broadcast m)
    r.2 = .count n none ∧
    r.1.delivered = (List.range n).map (fun a => (a, ⟨.notif, a, m⟩)) ∧
    ∀ a, a < n → (r.1.delivered.filter (fun x => x.1 = a)).length = 1 := by
  intro r
  have _ := hn  -- holds for no session at all too
  have hr : r = _ := broadcast_all_reach f (allOpen n) m (reaches_of_open _ (fun _ h => h) rfl)
  rw [hr]
  refine ⟨congrArg (Ret.count · none) List.length_range, rfl, fun a ha => ?_⟩
  exact count_reached (List.range n) a m List.nodup_range (List.mem_range.mpr ha)

theorem C05_filtered_all_open (f : Facts) (n m : Nat) (sel : List Nat) :
    let chosen := (List.range n).filter (sel.contains ·)
    let r := step (.streamable false) f (allOpen n) (.filtered sel m)
    r.2 = .counts chosen.length 0 none ∧
    r.1.delivered = chosen.map (fun a => (a, ⟨.notif, a, m⟩)) := by
  intro chosen r
  have hr : r = _ := filtered_all_reach f (allOpen n) sel m (reaches_of_open _ (fun _ h => h) rfl)
  rw [hr]
  exact ⟨rfl, rfl⟩

private theorem run_append (srv : Server) (f : Facts) (a b : List Op) : ∀ s, run srv f s (a ++ b) =
    ((run srv f (run srv f s a).1 b).1, (run srv f s a).2 ++ (run srv f (run srv f s a).1 b).2) := by
  induction a with
  | nil => intro s; rfl
  | cons o os ih => intro s; simp only [List.cons_append, run_cons, ih]

private theorem run_newSessions (f : Facts) (k : Nat) : ∀ s, (run (.streamable false) f s (List.replicate k .newSession)).1 =
    { s with nextSid := s.nextSid + k, sessions := s.sessions ++ List.range' s.nextSid k } := by
  induction k with
  | zero => intro s; simp [run]
  | succ k ih =>
    intro s
    rw [List.replicate_succ, run_cons, ih]
    simp [step, List.range'_succ, Nat.add_assoc, Nat.add_comm 1 k]

private theorem run_openStreams (f : Facts) (l : List Nat) : ∀ s, (∀ a ∈ l, a ∈ s.sessions) → (s.streams ++ l).Nodup →
    s.broken = [] → (run (.streamable false) f s (l.map .openStream)).1 = { s with streams := s.streams ++ l } := by
  induction l with
  | nil => intro s _ _ _; simp [run]
  | cons a l ih =>
    intro s hs hn hb
    have hfa : ∀ x ∈ s.streams, ¬x = a := fun x hx => (List.nodup_append.mp hn).2.2 x hx a (List.mem_cons_self ..)
    have h1 : (step (.streamable false) f s (.openStream a)).1 = { s with streams := s.streams ++ [a] } := by
      simpa [step, hs a, hb] using hfa
    rw [List.append_cons] at hn
    rw [List.map_cons, run_cons, h1, ih { s with streams := s.streams ++ [a] } (fun x hx => hs x (List.mem_cons_of_mem _ hx)) hn hb]
    simp

/-- On a stateful Streamable server that starts with an empty table, creating `n` sessions and then opening a GET stream
    for each leaves exactly the sessions `0 … n-1`, each with a healthy stream, whatever the facts and the request counter. -/
theorem open_all (f : Facts) (start n : Nat) :
    (run (.streamable false) f (init (.streamable false) start) (openAll n)).1 = { allOpen n with nextId := start } := by
  unfold openAll
  rw [run_append, List.map_const', List.length_range, run_newSessions, run_openStreams]
  · simp [init, allOpen, List.range_eq_range']
  · simp [init]
  · exact List.nodup_range
  · rfl

/-- the state after the harness's opening history is `allOpen n` (sizes the harness drives, among them the ones that do
    not divide evenly into 2, 3, 4, 5 or 8 parts). -/
theorem C05_open_all_sizes :
    ∀ n ∈ [1, 2, 3, 5, 7, 8, 9, 10, 11, 13, 14, 15, 17, 23, 31, 37, 40],
      let s := (run (.streamable false) factsToday (init (.streamable false) 0) (openAll n)).1
      s.sessions = (allOpen n).sessions ∧ s.streams = (allOpen n).streams ∧ s.broken = [] ∧ s.delivered = [] ∧ s.nextSid = n := by
  intro n _ s
  have hs : s = _ := open_all factsToday 0 n
  rw [hs]
  exact ⟨rfl, rfl, rfl, rfl, rfl⟩

private theorem run_length (srv : Server) (f : Facts) (ops : List Op) : ∀ s, (run srv f s ops).2.length = ops.length := by
  induction ops with
  | nil => intro s; rfl
  | cons o os ih => intro s; simp [run_cons, ih]

private theorem evens_length (n : Nat) : ((List.range n).filter (· % 2 = 0)).length = (n + 1) / 2 := by
  induction n with
  | zero => rfl
  | succ n ih =>
    rw [List.range_succ, List.filter_append, List.length_append, ih]
    by_cases h : n % 2 = 0 <;> simp [h] <;> omega

/-- For every number `n` of sessions with open streams and all facts: a broadcast followed by a filtered send to the
    even-numbered sessions (and one id that names no session) returns `n` and `⌈n/2⌉` with no failure, and every session's
    stream carries the broadcast once, followed on the even ones by the filtered notification once. -/
theorem broadcast_then_evens (f : Facts) (n : Nat) :
    let r := run (.streamable false) f (init (.streamable false) 0)
      (openAll n ++ [.broadcast 1, .filtered ((List.range n).filter (· % 2 = 0) ++ [n + 3]) 2])
    r.2.drop (2 * n) = [.count n none, .counts ((n + 1) / 2) 0 none] ∧
    ∀ a < n, outboxTags r.1 a .notif = if a % 2 = 0 then [1, 2] else [1] := by
  intro r
  have hsel : (List.range n).filter (((List.range n).filter (· % 2 = 0) ++ [n + 3]).contains ·) =
      (List.range n).filter (· % 2 = 0) := by
    apply List.filter_congr
    intro a ha
    have := List.mem_range.mp ha
    by_cases h : a % 2 = 0 <;> simp [this] <;> omega
  have hr : r = _ := run_append _ f (openAll n) _ _
  have h0 : (run _ f (init _ 0) (openAll n)).1 = allOpen n := open_all f 0 n
  rw [hr, h0, run_cons, broadcast_all_reach f _ 1 (reaches_of_open _ (fun _ h => h) rfl), run_cons,
    filtered_all_reach f _ _ 2 (reaches_of_open _ (fun _ h => h) rfl)]
  refine ⟨?_, fun a ha => ?_⟩
  · rw [List.drop_left' (by simp [run_length, openAll]; omega)]
    simp only [run, allOpen, hsel, evens_length, List.length_range]
  · show sel a .notif _ = _
    simp only [run, allOpen, hsel, List.nil_append, sel_append,
      sel_notifs a .notif _ _ List.nodup_range, sel_notifs a .notif _ _ (List.nodup_range.sublist List.filter_sublist)]
    by_cases h : a % 2 = 0 <;> simp [h, ha]

/-- instances: 10, 11, 13, 17 and 40 sessions, all with open streams — the broadcast answers the number of sessions and
    each of them gets the frame exactly once; the filtered send to every second one answers ⌈n/2⌉. -/
theorem C05_broadcast_sizes_examples :
    ∀ n ∈ [10, 11, 13, 17, 40],
      let r := run (.streamable false) factsToday (init (.streamable false) 0)
        (openAll n ++ [.broadcast 1, .filtered ((List.range n).filter (· % 2 = 0) ++ [n + 3]) 2])
      r.2.drop (2 * n) = [.count n none, .counts ((n + 1) / 2) 0 none] ∧
      (List.range n).all (fun a => outboxTags r.1 a .notif = if a % 2 = 0 then [1, 2] else [1]) = true := by
  intro n _
  obtain ⟨h1, h2⟩ := broadcast_then_evens factsToday n
  exact ⟨h1, List.all_eq_true.mpr fun a ha => decide_eq_true (h2 a (List.mem_range.mp ha))⟩

/-- a send to a session whose stream fails its writes reports the failure and writes nothing. -/
theorem C05_send_to_broken_stream (f : Facts) (s : St) (a m : Nat) (h1 : hasStream s a = true) (h2 : s.broken.contains a = true) :
    step (.streamable false) f s (.send a m) = (s, .err .writeFailed) := by
  have h2' : a ∈ s.broken := List.contains_iff_mem.mp h2
  simp [step, canNotify, h1, h2']

/-! ## who may answer -/

structure AInv (s : St) : Prop where
  slot : ∀ e ∈ s.pending, ∀ p pl, e.slot = some (p, pl) → p = e.to
  res : ∀ r ∈ s.results, ∀ p pl, r.answer = some (p, pl) → p = r.to

private theorem fillP_mem {key : Key} {p pl : Nat} {l : List PEntry} {e' : PEntry} (h : e' ∈ fillP true key p pl l) :
    e' ∈ l ∨ ∃ e ∈ l, e.to = p ∧ e' = { e with slot := some (p, pl) } := by
  induction l with
  | nil => exact .inl h
  | cons e es ih => grind [fillP]

private theorem findTag_some {m : Nat} {l : List PEntry} {e : PEntry} (h : findTag m l = some e) : e ∈ l ∧ e.tag = m := by
  induction l with
  | nil => cases h
  | cons x xs ih =>
    simp only [findTag] at h
    split at h
    · cases h; exact ⟨List.mem_cons_self .., ‹_›⟩
    · exact (ih h).imp_left (List.mem_cons_of_mem _)

private theorem Effect.ainv {f : Facts} {s s' : St} {op : Op} (h : Effect f s op s') (hf : f.answerChecksSession = true)
    (hi : AInv s) : AInv s' := by
  cases h with
  | issue key a m => exact ⟨List.forall_mem_append.mpr ⟨hi.slot, List.forall_mem_singleton.mpr nofun⟩, hi.res⟩
  | fill key p pl =>
    refine ⟨fun e he q ql hs => ?_, hi.res⟩
    rcases fillP_mem (hf ▸ he) with hm | ⟨e0, hm, rfl, rfl⟩
    · exact hi.slot e hm q ql hs
    · cases hs; rfl
  | finish m e ans pd he ha hp =>
    refine ⟨fun e' he' => ?_, List.forall_mem_append.mpr ⟨hi.res, List.forall_mem_singleton.mpr fun p pl hans => ?_⟩⟩
    · rcases hp with rfl | ⟨_, rfl⟩
      · exact hi.slot e' (List.mem_filter.mp he').1
      · exact hi.slot e' he'
    · rcases ha with rfl | rfl
      · cases hans
      · exact hi.slot e (findTag_some he).1 p pl hans
  | _ => exact ⟨hi.slot, hi.res⟩

/-- **The accepted answer comes from the addressee — for a table whose lookup takes the posting session into account**
    (fact `answerChecksSession`): for every history, every completed server-issued request that got an answer got it from
    the session it was sent to. (Today's source is in this region: `C05_answer_from_addressee_today`; the counterexamples
    below are outside it.) -/
theorem C05_answer_from_addressee (srv : Server) (f : Facts) (hf : f.answerChecksSession = true) (start : Nat) (ops : List Op) :
    ∀ r ∈ (run srv f (init srv start) ops).1.results, ∀ p pl, r.answer = some (p, pl) → p = r.to :=
  (run_inv srv f AInv (fun s op => (step_effect srv f s op).ainv hf) ops _ ⟨by cases srv <;> simp [init], by cases srv <;> simp [init]⟩).res

/-- **Counterexample for a lookup by the id alone (D13, the tree before the repair), Streamable**: two sessions with open streams; the server asks session 0 for
    its roots (request tagged 7, id 1); session 1 posts an answer bearing id 1; `ListRoots` inside session 0 returns
    session 1's payload. -/
theorem C05_answer_from_addressee_counterexample :
    (run (.streamable false) ⟨true, false, true, true⟩ (init (.streamable false) 0)
      [.newSession, .newSession, .openStream 0, .openStream 1, .request 0 7, .postAnswer 1 (.num 1) 99, .complete 7]).2
      = [.sid 0, .sid 1, .ok, .ok, .issued 1, .posted 202, .answered 1 99] := by decide

/-- the same on the legacy SSE server (before the repair `handleResponseMessage` ignored its session argument). -/
theorem C05_answer_from_addressee_counterexample_sse :
    (run .legacySse ⟨true, false, true, true⟩ (init .legacySse 0)
      [.newSession, .newSession, .request 0 7, .postAnswer 1 (.num 1) 99, .complete 7]).2
      = [.sid 0, .sid 1, .issued 1, .posted 202, .answered 1 99] := by decide

/-- with a session-checking lookup the foreign answer is ignored and the addressee's own answer is accepted. -/
theorem C05_answer_checked_example :
    (run (.streamable false) ⟨true, true, true, true⟩ (init (.streamable false) 0)
      [.newSession, .newSession, .openStream 0, .openStream 1, .request 0 7, .postAnswer 1 (.num 1) 99, .postAnswer 0 (.num 1) 55, .complete 7]).2
      = [.sid 0, .sid 1, .ok, .ok, .issued 1, .posted 202, .posted 202, .answered 0 55] := by decide

/-- **D01 on the server side (a `%v`-keyed table, the tree before the repair)**: a server whose request counter stands at
    999 999 asks session 0; the addressee itself posts the answer with the echoed id 1000000 — it is not matched
    (`"1e+06"` vs `"1000000"`), the request can only time out. With `requestIDKey` the same history is answered. -/
theorem C05_answer_lost_witness :
    (run (.streamable false) ⟨false, true, true, true⟩ (init (.streamable false) 999999)
      [.newSession, .openStream 0, .request 0 7, .postAnswer 0 (.num 1000000) 55, .complete 7, .timeout 7]).2
      = [.sid 0, .ok, .issued 1000000, .posted 202, .err .disabled, .failed] ∧
    (run (.streamable false) ⟨true, true, true, true⟩ (init (.streamable false) 999999)
      [.newSession, .openStream 0, .request 0 7, .postAnswer 0 (.num 1000000) 55, .complete 7]).2
      = [.sid 0, .ok, .issued 1000000, .posted 202, .answered 0 55] := by decide

/-- **Key round trip of the three server tables** for today's key kinds (Streamable: `requestIDKey`; legacy SSE and stdio:
    `uint64`): for every request number 1 ≤ n ≤ 2^53 the key computed from the id of the client's answer is the key the
    request was registered under. -/
theorem C05_key_roundtrip (f : Facts) (hf : f.streamableIdKey = true) (srv : Server) (n : Nat) (_h1 : 1 ≤ n) (h : n ≤ 2 ^ 53) :
    keyOfWire (keyKind f srv) (Mcp.Pending.wireOf n) = keyOfReq (keyKind f srv) (.int (Int.ofNat n)) :=
  Mcp.Pending.key_roundtrip _ (by cases srv <;> simp [keyKind, hf]) h

/-! ## legacy SSE notifications (D14) -/

/-- **If nothing ever marks a legacy SSE session initialized (D14, the tree before the repair)**: every `SendNotification`
    fails with "session not initialized" and nothing is written, although the session exists and its stream is open. -/
theorem C05_sse_notification_counterexample (f : Facts) (hf : f.sseInitialized = false) (s : St) (a m : Nat) :
    (step .legacySse f s (.send a m)).2 ≠ .ok ∧ (step .legacySse f s (.send a m)).1 = s := by
  by_cases h : a ∈ s.sessions <;> simp [step, canNotify, hf, h]

/-- **Legacy SSE notifications**: once the handshake marks the session initialized, a send to an existing session succeeds
    and is written on its stream. -/
theorem C05_sse_notification (f : Facts) (hf : f.sseInitialized = true) (s : St) (a m : Nat) (ha : s.sessions.contains a = true) :
    (step .legacySse f s (.send a m)).2 = .ok ∧
    (step .legacySse f s (.send a m)).1.delivered = s.delivered ++ [(a, ⟨.notif, a, m⟩)] := by
  have ha' : a ∈ s.sessions := List.contains_iff_mem.mp ha
  simp [step, canNotify, hf, ha', notifFrame]

/-! ## nothing left pending -/

private theorem fillP_tags (c : Bool) (key : Key) (p pl : Nat) (l : List PEntry) :
    (fillP c key p pl l).map PEntry.tag = l.map PEntry.tag := by
  induction l with
  | nil => rfl
  | cons e es ih =>
    simp only [fillP]
    split
    · split <;> simp
    · simp [ih]

private theorem removeTag_tags (m : Nat) (l : List PEntry) : (removeTag m l).map PEntry.tag = (l.map PEntry.tag).filter (· ≠ m) := by
  rw [List.filter_map]; rfl

private theorem Effect.waiting {f : Facts} {s s' : St} {op : Op} (he : Effect f s op s') (hf : f.deferredDelete = true)
    (h : s.pending.map PEntry.tag = s.waiting) : s'.pending.map PEntry.tag = s'.waiting := by
  cases he with
  | issue key a m => simp [h]
  | fill key p pl => simpa [fillP_tags] using h
  | finish m e ans pd _ _ hp =>
    rcases hp with rfl | ⟨hd, _⟩
    · simp [removeTag_tags, h]
    · rw [hf] at hd; cases hd
  | _ => exact h

/-- **Nothing left**: with the deferred delete in place (fact), in every reachable state the pending table holds exactly
    the requests whose `SendRequest` call has not returned; so once every request has been answered, timed out or been
    cancelled (`waiting = []`) the table is empty. -/
theorem C05_nothing_left (srv : Server) (f : Facts) (hf : f.deferredDelete = true) (start : Nat) (ops : List Op) :
    let s := (run srv f (init srv start) ops).1
    s.pending.map PEntry.tag = s.waiting ∧ (s.waiting = [] → s.pending = []) := by
  intro s
  have h : s.pending.map PEntry.tag = s.waiting :=
    run_inv srv f (fun s => s.pending.map PEntry.tag = s.waiting) (fun s op => (step_effect srv f s op).waiting hf) ops _ (by cases srv <;> rfl)
  exact ⟨h, fun hw => List.map_eq_nil_iff.mp (hw ▸ h)⟩

/-- without the deferred delete a timed-out request would stay in the table for ever. -/
theorem C05_leak_witness :
    let s := (run .legacySse ⟨true, true, true, false⟩ (init .legacySse 0) [.newSession, .request 0 7, .timeout 7]).1
    s.waiting = [] ∧ s.pending.length = 1 := by decide

/-! ## regenerated facts (T-gen) -/

/-- The region of the model family the current source is in (`Mcp.Routing.factsToday`, computed from the regenerated
    facts): the Streamable table renders ids with `requestIDKey` on both sides; every lookup site of the two multi-session
    tables compares the posting session with the entry's; something marks a session initialized; every insert has its
    deferred delete. -/
theorem C05_fact_region : factsToday = ⟨true, true, true, true⟩ := by decide

/-- **The accepted answer comes from the addressee — today's source**: for every history on every server kind. -/
theorem C05_answer_from_addressee_today (srv : Server) (start : Nat) (ops : List Op) :
    ∀ r ∈ (run srv factsToday (init srv start) ops).1.results, ∀ p pl, r.answer = some (p, pl) → p = r.to :=
  C05_answer_from_addressee srv factsToday (by rw [C05_fact_region]) start ops

/-- **Legacy SSE notifications reach the session — today's source.** -/
theorem C05_sse_notification_today (s : St) (a m : Nat) (ha : s.sessions.contains a = true) :
    (step .legacySse factsToday s (.send a m)).2 = .ok ∧
    (step .legacySse factsToday s (.send a m)).1.delivered = s.delivered ++ [(a, ⟨.notif, a, m⟩)] :=
  C05_sse_notification factsToday (by rw [C05_fact_region]) s a m ha

/-- **Nothing left — today's source.** -/
theorem C05_nothing_left_today (srv : Server) (start : Nat) (ops : List Op) :
    let s := (run srv factsToday (init srv start) ops).1
    s.pending.map PEntry.tag = s.waiting ∧ (s.waiting = [] → s.pending = []) :=
  C05_nothing_left srv factsToday (by rw [C05_fact_region]) start ops

/-- the three server tables are keyed as the model keys them (`keyKind`): Streamable by `requestIDKey`, legacy SSE and
    stdio by `uint64` through `parseRequestID`; the entry is inserted before the request frame is queued or written; the
    functions that read each table are exactly the modelled lookup functions (a new function reading a table changes
    `readSites`; whether every reader compares the posting session is part of `lookupUsesSession`, `C05_fact_region`). -/
theorem C05_fact_keys :
    (Mcp.Gen.pdTables.filter (fun t => t.name = t!"streamable_server.pendingRequests" ∨ t.name = t!"sse_server.responses" ∨ t.name = t!"stdio_server.responses")).map
      (fun t => (t.name, t.insertKind, t.lookupKinds, t.insertBeforeSend, t.readSites)) =
      [ (t!"sse_server.responses", t!"uint64OfInt64", [t!"parseRequestID", t!"parseRequestID"], true,
          [t!"SSEServer.handleResponseMessage", t!"SSEServer.handleRootsListResponse"]),
        (t!"stdio_server.responses", t!"uint64OfInt64", [t!"parseRequestID"], true, [t!"stdioServerInternal.HandleResponse"]),
        (t!"streamable_server.pendingRequests", t!"idKey", [t!"idKey"], true, [t!"responseManager.DeliverResponse"]) ] := by decide

/-- **The sessions a broadcast / filtered send goes through are all stored sessions**: `SessionManager.GetActiveSessions`
    has no condition and skips nothing (a session is stored until it is terminated or swept; as long as `GetSession` serves
    it, it is in the list — `sessions` of the model). -/
theorem C05_fact_active_sessions_unfiltered : Mcp.Gen.pdActiveSessionsConds = [] := by decide

/-- **No deadline is left on a listening stream's connection**: the only deadlines / connection timeouts library code sets
    (root package, internal/sseutil, internal/httputil) are the two `SetWriteDeadline(time.Now())` calls on the exit path of
    the GET handlers (`handleSSE`, `handleGet`: they end the handler, nothing is written afterwards). No write of a
    notification or request sets a deadline that a later write could run into. -/
theorem C05_fact_no_stream_deadlines :
    Mcp.Gen.pdDeadlineSites =
      [ ⟨t!"sse_server.go", t!"handleSSE", t!"SetWriteDeadline", t!"time.Now()"⟩,
        ⟨t!"streamable_server.go", t!"handleGet", t!"SetWriteDeadline", t!"time.Now()"⟩ ] := by decide

/-! ## non-vacuity -/

-- three sessions, two with streams: a broadcast reaches two, a send to the third fails, a filtered send reaches one
example :
    let r := run (.streamable false) ⟨true, true, true, true⟩ (init (.streamable false) 0)
      [.newSession, .newSession, .newSession, .openStream 0, .openStream 2, .broadcast 10, .send 1 11, .filtered [1, 2] 12, .send 2 13]
    r.2 = [.sid 0, .sid 1, .sid 2, .ok, .ok, .count 2 none, .err .noStream, .counts 1 1 none, .ok] ∧
    outboxTags r.1 0 .notif = [10] ∧ outboxTags r.1 1 .notif = [] ∧ outboxTags r.1 2 .notif = [10, 12, 13] := by decide

-- six sessions, two of them with a stream that fails its writes, one without a stream: a broadcast reaches the three healthy ones
example :
    let r := run (.streamable false) ⟨true, true, true, true⟩ (init (.streamable false) 0)
      [.newSession, .newSession, .newSession, .newSession, .newSession, .newSession, .openStream 0, .breakStream 1, .openStream 2,
       .breakStream 3, .openStream 4, .broadcast 10, .filtered [1, 2, 5] 11, .send 1 12, .openStream 1, .send 1 13]
    r.2 = [.sid 0, .sid 1, .sid 2, .sid 3, .sid 4, .sid 5, .ok, .ok, .ok, .ok, .ok, .count 3 none, .counts 1 2 none, .err .writeFailed, .ok, .ok] ∧
    outboxTags r.1 0 .notif = [10] ∧ outboxTags r.1 1 .notif = [13] ∧ outboxTags r.1 2 .notif = [10, 11] ∧ outboxTags r.1 3 .notif = [] := by decide

-- stdio: a request answered by the one session; nothing pending afterwards
example :
    let r := run .stdio ⟨true, true, true, true⟩ (init .stdio 0) [.request 0 5, .send 0 6, .postAnswer 0 (.num 1) 42, .complete 5]
    r.2 = [.issued 1, .ok, .posted 202, .answered 0 42] ∧ r.1.pending = [] ∧ outboxTags r.1 0 .req = [5] := by decide

end Mcp.Props.C05
