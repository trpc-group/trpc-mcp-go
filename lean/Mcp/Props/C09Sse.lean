/-
  C09, SSE side of "a conforming reader recovers exactly the messages written": the events that `WriteEvent` puts on one
  connection one after the other (which the locked-writer invariant of `Mcp.Props.C09` guarantees: whole frames, in the
  order they started) are read back one by one, whatever their number.
-/
import Mcp.Props.C02Wire
import Mcp.Gen.Writers
import Mcp.Model.Frames
import Mcp.Props.C09
namespace Mcp.Props.C09
open Mcp.Str Mcp.Json Mcp.Escape Mcp.Props.C02

/-- Any number of JSON messages written as SSE events on one stream: a WHATWG-conforming reader dispatches exactly those
    messages, in order, each parseable on its own (its data is the rendering of the message, byte for byte). -/
theorem C09_sse_stream_reader (ms : List (Text × Json)) (hid : ∀ m ∈ ms, NoNL m.1 ∧ 0 ∉ m.1) :
    parseSSE ((ms.map (fun m => writeEvent m.1 (render m.2))).flatten) = ms.map (fun m => (m.1, render m.2)) :=
  C02_messages_over_sse_stream ms hid

/-- The same for raw event data (any non-empty payload without CR, line feeds allowed): events never merge or split. -/
theorem C09_sse_events_never_merge (es : List (Text × Text)) (h : ∀ e ∈ es, GoodEvent e) :
    (parseSSE ((es.map (fun e => writeEvent e.1 e.2)).flatten)).length = es.length := by
  rw [C02_sse_stream_transparent es h]; simp

/-- Legacy SSE stream with keep-alive comments: whatever sequence of events and keep-alive comments the legacy server
    writes on one connection (each as a whole frame — `C09_all_writers_framed` has `handleKeepAlive`, `handleNotifications`
    and `handleEventQueue` under `session.writeMu`), a WHATWG reader dispatches exactly the events' data, in order. -/
theorem C09_legacy_stream_with_keepalives (items : List LegacyItem) (h : ∀ i ∈ items, i.good) :
    parseSSE ((items.map LegacyItem.bytes).flatten) = (items.map LegacyItem.payload).flatten :=
  C02_legacy_stream_transparent items h

/-- T-gen: the keep-alive frame of the model is, byte for byte, the one string literal `handleKeepAlive` writes (a comment
    line and the blank line that ends it). A keep-alive without its blank line, or one that is not a comment, changes
    this regenerated fact. -/
theorem C09_keepalive_frame_is_the_sources :
    Mcp.Gen.keepAliveFrames = [LegacyItem.keepalive.bytes] := by decide

/-! ### the chunk model of `WriteEvent` (tied chunk by chunk to the real writer) and the text model used above agree -/

private theorem trim_agree (s : Text) : Mcp.Frames.trimSuffixLF s = Mcp.Escape.trimSuffixLF s := by
  rcases List.eq_nil_or_concat s with rfl | ⟨t, c, rfl⟩
  · rfl
  · by_cases hc : c = 10 <;> simp [Mcp.Frames.trimSuffixLF, trimSuffixLF_eq, hc]

private theorem split_agree (s : Text) : ∀ acc l ls, Mcp.Escape.splitOn 10 s = l :: ls →
    Mcp.Frames.splitOnLF acc s = (acc ++ l) :: ls := by
  induction s with
  | nil => intro acc l ls h; cases h; simp [Mcp.Frames.splitOnLF]
  | cons c s ih =>
    obtain ⟨m, ms, hs, hc⟩ := splitOn_cons 10 c s
    intro acc l ls h
    rw [hc] at h
    by_cases h10 : c = 10
    · obtain ⟨rfl, rfl⟩ : [] = l ∧ m :: ms = ls := by simpa [h10] using h
      simp [Mcp.Frames.splitOnLF, h10, ih [] m ms hs]
    · obtain ⟨rfl, rfl⟩ : c :: m = l ∧ ms = ls := by simpa [h10] using h
      simp [Mcp.Frames.splitOnLF, h10, ih (acc ++ [c]) m ms hs]

private theorem splitLines_agree (s : Text) : Mcp.Frames.splitLinesLF s = Mcp.Escape.splitOn 10 s := by
  obtain ⟨l, ls, h⟩ := List.exists_cons_of_ne_nil (splitOn_ne_nil 10 s)
  rw [Mcp.Frames.splitLinesLF, split_agree s [] l ls h, h]
  rfl

/-- The two models of `sseutil.Writer.WriteEvent` agree: the chunk-by-chunk model of `Mcp.Model.Frames` (the one the
    harness compares chunk for chunk with the real writer's `Write` calls, and whose chunks the locked-writer invariant
    keeps together) concatenates to exactly the text model of `Mcp.Model.Escape` that the stream theorems above are about —
    for every id and every payload. -/
theorem C09_chunk_model_is_text_model (id data : Text) :
    (Mcp.Frames.sseEventChunks id data).flatten = writeEvent id data := by
  unfold Mcp.Frames.sseEventChunks writeEvent
  cases data with
  | nil => simp
  | cons c cs =>
    simp only [List.isEmpty_cons, Bool.false_eq_true, if_false, List.flatten_append]
    rw [trim_agree, splitLines_agree, flatten_dataLines]
    simp

/-- stdio side, with the payloads that really travel: any number of JSON messages, each rendered by the encoder and
    terminated by LF, are recovered one per line by a line reader — the no-raw-newline hypothesis of
    `C09_lines_roundtrip` is discharged by the encoder theorem `C02_message_is_one_line`, for every JSON value. -/
theorem C09_json_lines_roundtrip (js : List Json) :
    Mcp.Frames.lines ((js.map (fun j => render j ++ [10])).flatten) = (js.map render, []) := by
  have h := C09_lines_roundtrip (js.map render) (by
    intro m hm
    obtain ⟨j, _, rfl⟩ := List.mem_map.1 hm
    exact (C02_message_is_one_line j).1)
  simpa [Function.comp_def] using h

end Mcp.Props.C09
