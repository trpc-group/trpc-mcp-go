/-
  C11 — A newer listening stream owns the session; an old one's exit never evicts it.

  The model (`Mcp.Streams`) is a family indexed by `Facts`, written positionally in the witnesses as
  `⟨flushBeforeStore, identityCheckOnExit, closedMarkOnExit⟩`; `Facts.good` is `⟨false, true, _⟩`.
  * every send lands on the newest stream, under every schedule in the good region: `C11_newest_owns` (from the
    invariant `Inv`), with `C11_one_listener`; sends never move the table: `C11_send_leaves_table`;
  * a stream that ends removes only itself: `C11_exit_removes_self_only`;
  * no write on a finished response, given the closed mark: `C11_no_write_after_return`;
  * the code is in that region (regenerated, decided here): `C11_facts_good`, `C11_closed_mark_fact`, and `store`/`exit_`
    are one critical section each: `C11_steps_atomic_fact`; the client's slot: `C11_client_slot_fact`;
  * one failing schedule per bad region: `C11_bad_exit_witness`, `C11_bad_order_witness`,
    `C11_write_after_return_witness`, and for split critical sections (`Mcp.Streams.stepS`, which agrees with `step` on
    base events: `C11_split_model_conservative`) `C11_split_exit_witness`, `C11_split_store_witness`.
-/
import Mcp.Model.Streams
import Mcp.Model.StreamsSplit
import Mcp.Gen.HandleGet
namespace Mcp.Props.C11
open Mcp.Streams

/-- The invariant of the good region of the family (store before flush, identity check on exit), for the handler `n`
    with record `h` when the table entry is `t`. -/
structure Ok (t : Option Nat) (n : Nat) (h : H) : Prop where
  flushedStored : h.flushed = true → h.stored = true
  owns : h.stored = true → h.cancelled = false → t = some n
  wokenCancelled : h.woken = true → h.cancelled = true

def Inv (s : St) : Prop := ∀ n, Ok s.table n (s.hs n)

theorem inv_init : Inv {} := fun _ => ⟨nofun, nofun, nofun⟩

/-- The shape every handler event has: the record of one handler is replaced and the table entry may change, but no
    other handler that owned the entry (stored, not cancelled) loses it. -/
private theorem inv_upd {s s' : St} (hi : Inv s) (n : Nat) (h' : H) (hhs : s'.hs = upd s.hs n h')
    (hn : Ok s'.table n h')
    (ht : ∀ m, m ≠ n → (s.hs m).cancelled = false → s.table = some m → s'.table = some m) : Inv s' := by
  intro m
  rw [hhs]
  by_cases hmn : m = n
  · rw [hmn, upd_same]; exact hn
  · rw [upd_other hmn]; exact { hi m with owns := fun a b => ht m hmn b ((hi m).owns a b) }

/-- Ending a stream from outside: a newer stream, the client, DELETE. -/
private theorem inv_cancel {s s' : St} (hi : Inv s) (o : Nat) (hhs : s'.hs = cancel s.hs o)
    (ht : ∀ m, m ≠ o → s.table = some m → s'.table = some m) : Inv s' :=
  inv_upd hi o _ hhs { hi o with owns := fun _ => nofun, wokenCancelled := fun _ => rfl } fun m hm _ => ht m hm

/-- A send — successful, failed on a dead peer, or not deliverable at all — never changes which stream owns the
    session, nor any handler's state: in particular a failed write on an old stream cannot evict the new one. -/
theorem C11_send_leaves_table (f : Facts) (s s' : St) (e : Ev)
    (he : (∃ m, e = .send m) ∨ (∃ m, e = .sendBegin m) ∨ (∃ m, e = .sendEnd m) ∨ (∃ n, e = .breakStream n))
    (hs : step f s e = some s') : s'.table = s.table ∧ s'.hs = s.hs := by
  rcases he with ⟨m, rfl⟩ | ⟨m, rfl⟩ | ⟨m, rfl⟩ | ⟨n, rfl⟩ <;> simp only [step] at hs <;> repeat' split at hs
  all_goals cases hs
  all_goals exact ⟨rfl, rfl⟩

theorem inv_step (f : Facts) (hf : f.good = true) (s s' : St) (e : Ev) (h : Inv s) (hs : step f s e = some s') : Inv s' := by
  simp only [Facts.good, Bool.and_eq_true, Bool.not_eq_true'] at hf
  obtain ⟨hfb, hid⟩ := hf
  cases e with
  | open_ n =>
    simp only [step, Option.ite_none_left_eq_some, Option.some.injEq] at hs
    obtain ⟨-, rfl⟩ := hs
    exact inv_upd h n _ rfl { h n with } fun _ _ _ ht => ht
  | flush n =>
    simp only [step, hfb, Bool.false_or, Option.ite_none_right_eq_some, Option.some.injEq, Bool.and_eq_true] at hs
    obtain ⟨⟨⟨-, hst⟩, -⟩, rfl⟩ := hs
    exact inv_upd h n _ rfl { h n with flushedStored := fun _ => hst } fun _ _ _ ht => ht
  | store n =>
    simp only [step, Option.ite_none_right_eq_some, Option.some.injEq] at hs
    obtain ⟨-, rfl⟩ := hs
    cases ht : s.table with
    | none =>
      exact inv_upd h n _ rfl { h n with flushedStored := fun _ => rfl, owns := fun _ _ => rfl } fun m _ _ hm => by
        cases ht ▸ hm
    | some o =>
      -- two updates: the stream found is cancelled, then the new one is stored
      have hc : Inv { s with hs := cancel s.hs o } := inv_cancel h o rfl fun _ _ ht => ht
      refine inv_upd hc n _ rfl { hc n with flushedStored := fun _ => rfl, owns := fun _ _ => rfl } fun m _ hm hm' => ?_
      cases (ht ▸ hm' : some o = some m)
      simp [cancel] at hm
  | clientClose n =>
    simp only [step, Option.ite_none_right_eq_some, Option.some.injEq] at hs
    obtain ⟨-, rfl⟩ := hs
    exact inv_cancel h n rfl fun _ _ ht => ht
  | wake n =>
    simp only [step, Option.ite_none_right_eq_some, Option.some.injEq, Bool.and_eq_true] at hs
    obtain ⟨⟨⟨-, hcn⟩, -⟩, rfl⟩ := hs
    exact inv_upd h n _ rfl { h n with wokenCancelled := fun _ => hcn } fun _ _ _ ht => ht
  | exit_ n =>
    simp only [step, hid, ite_true, Option.ite_none_right_eq_some, Option.some.injEq, Bool.and_eq_true] at hs
    obtain ⟨⟨hw, -⟩, rfl⟩ := hs
    -- a handler that leaves has woken, so it was cancelled and owns nothing
    refine inv_upd h n _ rfl { h n with owns := fun _ hx => by simp [(h n).wokenCancelled hw] at hx } fun m hm _ ht => ?_
    simp [ht, hm]
  | delete =>
    simp only [step] at hs
    split at hs
    · next o ht => cases hs; exact inv_cancel h o rfl fun m hm hm' => by cases ht ▸ hm'; exact absurd rfl hm
    · cases hs; exact h
  | send m | sendBegin m | sendEnd m | breakStream m =>
    obtain ⟨ht, hh⟩ := C11_send_leaves_table f s s' _ (by simp) hs
    exact fun n => hh ▸ ht ▸ h n

private theorem run_induct (f : Facts) (P : St → Prop) (hstep : ∀ s s' e, P s → step f s e = some s' → P s') (evs : List Ev) :
    ∀ s s', P s → run f s evs = some s' → P s' := by
  induction evs with
  | nil => intro s s' h hr; cases hr; exact h
  | cons e es ih =>
    intro s s' h hr
    simp only [run] at hr
    split at hr
    · cases hr
    · next s1 hs1 => exact ih s1 s' (hstep s s1 e h hs1) hr

theorem inv_run (f : Facts) (hf : f.good = true) (evs : List Ev) :
    ∀ (s s' : St), Inv s → run f s evs = some s' → Inv s' :=
  run_induct f Inv (inv_step f hf) evs

/-- **A newer listening stream owns the session.** For the good region of the family (table store before the
    header flush, identity check on exit) and every schedule of any number of GET handlers, client disconnects,
    DELETEs and sends: whenever a stream's headers have been received and nobody has ended that stream, the table
    entry of the session is that stream — so every send succeeds and is delivered on it. -/
theorem C11_newest_owns (f : Facts) (hf : f.good = true) (evs : List Ev) (s : St)
    (hr : run f {} evs = some s) (n : Nat) (hl : listening s n = true) (m : Nat) :
    s.table = some n ∧
    (s.broken.contains n = false →   -- the peer of that stream is alive (writes on it succeed)
      step f s (.send m) = some { s with delivered := s.delivered ++ [(n, m)] }) := by
  have hi := inv_run f hf evs {} s inv_init hr n
  simp only [listening, Bool.and_eq_true, Bool.not_eq_true'] at hl
  have ht : s.table = some n := hi.owns (hi.flushedStored hl.1) hl.2
  refine ⟨ht, fun hb => ?_⟩
  simp only [step, ht, hb, Bool.false_eq_true, if_false]

/-- At most one stream is listening at any time (the old one has been ended by the time the new one's headers
    are out). -/
theorem C11_one_listener (f : Facts) (hf : f.good = true) (evs : List Ev) (s : St)
    (hr : run f {} evs = some s) (a b : Nat) (ha : listening s a = true) (hb : listening s b = true) : a = b :=
  Option.some.inj ((C11_newest_owns f hf evs s hr a ha 0).1.symm.trans (C11_newest_owns f hf evs s hr b hb 0).1)

/-- A stream that ends removes only itself: with the identity check the exit step leaves any other stream's
    entry in place. -/
theorem C11_exit_removes_self_only (f : Facts) (hid : f.identityCheckOnExit = true) (s s' : St) (n : Nat)
    (hs : step f s (.exit_ n) = some s') : s'.table = (if s.table = some n then none else s.table) := by
  simp only [step, hid, ite_true, Option.ite_none_right_eq_some, Option.some.injEq] at hs
  obtain ⟨-, rfl⟩ := hs
  rfl

/-- The regenerated facts about today's `handleGet` are in the good region. -/
theorem C11_facts_good : Mcp.Gen.handleGetFacts.good = true := by decide

/-- The model's `store` and `exit_` are single steps because the code performs each in ONE exclusive critical section of the
    stream-table lock (regenerated): registration = look up the session's entry, cancel the stream found, store the new
    one; exit = "is the entry still mine?" and the delete. Split in two critical sections, two racing re-opens can both
    stay open, and an old stream's exit can evict a stream registered between its check and its delete — schedules the
    model does not contain, so the theorems above would say nothing about such code. -/
theorem C11_steps_atomic_fact : Mcp.Gen.handleGetStoreAtomic = true ∧ Mcp.Gen.handleGetExitAtomic = true := by decide

/-- Client side of the same rule (`streamable_client.go establishGetSSE`, regenerated): a re-open cancels the previous
    stream's context and installs the new one under the slot's mutex, and a reader goroutine that exits cancels / replaces
    nothing in the shared slot — by then the slot may belong to a newer stream ("a stream that ends removes only
    itself"). -/
theorem C11_client_slot_fact : Mcp.Gen.clientGetReplaceLocked = true ∧ Mcp.Gen.clientGetExitOwnOnly = true := by decide

/-- Why `handleGetExitAtomic` is an obligation: with the identity check and the delete in two critical sections (good
    facts otherwise) an old stream that ended by itself evicts a stream registered between its check and its delete — the
    new stream is listening, a send after its headers fails. -/
theorem C11_split_exit_witness :
    ∃ x, runS ⟨false, true, true⟩ {}
        [.base (.open_ 0), .base (.store 0), .base (.flush 0), .base (.clientClose 0), .base (.wake 0), .exitCheck 0,
         .base (.open_ 1), .base (.store 1), .base (.flush 1), .exitDelete 0, .base (.send 7)] = some x ∧
      listening x.s 1 = true ∧ x.s.table = none ∧ x.s.failed = [7] ∧ x.s.delivered = [] := by
  refine ⟨_, rfl, ?_⟩; decide

/-- Why `handleGetStoreAtomic` is an obligation: with the look-up of the predecessor and the store in two critical
    sections two racing re-opens both cancel only the stream they saw: the one whose entry is overwritten stays open
    (two listeners), and it never receives anything. -/
theorem C11_split_store_witness :
    ∃ x, runS ⟨false, true, true⟩ {}
        [.base (.open_ 0), .base (.store 0), .base (.flush 0), .base (.open_ 1), .base (.open_ 2),
         .storeLookup 1, .storeLookup 2, .storeCommit 1, .base (.flush 1), .storeCommit 2, .base (.flush 2), .base (.send 7)] = some x ∧
      listening x.s 1 = true ∧ listening x.s 2 = true ∧ x.s.table = some 2 ∧ x.s.delivered = [(2, 7)] := by
  refine ⟨_, rfl, ?_⟩; decide

/-- The split model restricted to base events is the model the theorems above are about. -/
theorem C11_split_model_conservative (f : Facts) (x : StS) (e : Ev) :
    stepS f x (.base e) = (step f x.s e).map fun s' => { x with s := s' } := rfl

/-- Witness for the bad region "exit deletes by key" (the tree before its `fix:` commit): after a reconnect the old
    handler's exit evicts the new stream and a send fails although stream 1 is listening. -/
theorem C11_bad_exit_witness :
    ∃ s, run ⟨false, false, true⟩ {} [.open_ 0, .store 0, .flush 0, .open_ 1, .store 1, .flush 1, .wake 0, .exit_ 0, .send 7] = some s ∧
      listening s 1 = true ∧ s.failed = [7] ∧ s.delivered = [] := by
  refine ⟨_, rfl, ?_⟩; decide

/-- Witness for the bad region "headers flushed before the table store": the client has the new stream's headers,
    yet a send is delivered on the old stream (or fails, for a first stream). -/
theorem C11_bad_order_witness :
    (∃ s, run ⟨true, true, true⟩ {} [.open_ 0, .flush 0, .store 0, .open_ 1, .flush 1, .send 7] = some s ∧
      listening s 1 = true ∧ s.delivered = [(0, 7)]) ∧
    (∃ s, run ⟨true, true, true⟩ {} [.open_ 0, .flush 0, .send 7] = some s ∧ listening s 0 = true ∧ s.failed = [7]) := by
  refine ⟨⟨_, rfl, ?_⟩, ⟨_, rfl, ?_⟩⟩ <;> decide

private theorem step_crashed (f : Facts) (hc : f.closedMarkOnExit = true) (s s' : St) (e : Ev)
    (h : step f s e = some s') : s'.crashed = s.crashed := by
  cases e <;> simp only [step, hc, ite_true] at h <;> repeat' split at h
  all_goals cases h
  all_goals rfl

/-- **A send never writes to a finished response.** With the closed mark (set by the exiting handler under the
    connection's write lock and checked by writers under that lock) no schedule — whatever the interleaving of a
    send's lookup and write with the teardown of the stream it found — makes a write hit a response whose handler has
    returned. -/
theorem C11_no_write_after_return (f : Facts) (hc : f.closedMarkOnExit = true) (evs : List Ev) :
    ∀ (s s' : St), s.crashed = [] → run f s evs = some s' → s'.crashed = [] :=
  run_induct f (fun s => s.crashed = []) (fun s s' e h hs => (step_crashed f hc s s' e hs).trans h) evs

/-- The regenerated fact: today's `handleGet` exit path sets the mark and both writers check it. -/
theorem C11_closed_mark_fact : Mcp.Gen.handleGetFacts.closedMarkOnExit = true := by decide

/-- Witness for the bad region (no closed mark — the tree before its `fix:` commit): a send looks the stream up, the
    client drops the stream, the handler wakes, cleans up and returns, then the send writes: a write on a finished
    response (in the real server: a nil-pointer panic inside net/http in the goroutine that called SendNotification). -/
theorem C11_write_after_return_witness :
    ∃ s, run ⟨false, true, false⟩ {} [.open_ 0, .store 0, .flush 0, .sendBegin 7, .clientClose 0, .wake 0, .exit_ 0, .sendEnd 7] = some s ∧
      s.crashed = [7] := by
  refine ⟨_, rfl, ?_⟩; decide

-- non-vacuity: reconnect under the good facts, then a send lands on the new stream
example : ∃ s, run ⟨false, true, true⟩ {} [.open_ 0, .store 0, .flush 0, .open_ 1, .store 1, .flush 1, .wake 0, .exit_ 0, .send 7] = some s ∧
    listening s 1 = true ∧ s.delivered = [(1, 7)] ∧ s.failed = [] := by
  refine ⟨_, rfl, ?_⟩; decide

end Mcp.Props.C11
