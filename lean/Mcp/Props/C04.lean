/-
  C04 — Streamable-HTTP session life-cycle follows the protocol state machine.
-/
import Mcp.Model.Session
import Mcp.Model.Ids
import Mcp.Gen.SessionFacts
namespace Mcp.Props.C04
open Mcp.Session

/-! ## one step: shape lemmas -/

theorem postBody_cases (c st k sess) :
    ∃ l, (postBody c st k sess).1 = { st with lstate := l } ∧
      (l = st.lstate ∨ (postBody c st k sess).2.status = 200 ∨ (postBody c st k sess).2.status = 202) := by
  cases k with
  | initOk => simp only [postBody]; split <;> exact ⟨_, rfl, .inr (.inl rfl)⟩
  | notifInitialized =>
    simp only [postBody]
    split
    · split
      · exact ⟨_, rfl, .inr (.inr rfl)⟩
      · exact ⟨_, rfl, .inl rfl⟩
    · exact ⟨_, rfl, .inl rfl⟩
  | response | responseEmpty => simp only [postBody]; split <;> exact ⟨_, rfl, .inl rfl⟩
  | _ => exact ⟨_, rfl, .inl rfl⟩

theorem postBody_out_congr (c : Cfg) (st st' : St) (k : Kind) (sess : Option Sid) (h : st'.lstate = st.lstate) :
    (postBody c st' k sess).2 = (postBody c st k sess).2 := by
  cases k with
  | notifInitialized =>
    simp only [postBody, h]; repeat' split
    all_goals rfl
  | initOk | response | responseEmpty => simp only [postBody]; split <;> rfl
  | _ => rfl

private theorem postBody_init (c st k s) (hm : c.mode = .stateful) (hk : isInit k = true) :
    (postBody c st k (some s)).2 = ⟨200, some s, []⟩ := by
  cases k <;> simp_all [postBody, isInit]

/-- The specification does not count `op`, given that the ids it holds alive are live in `st`. -/
private def Uncounted (c : Cfg) (st : St) (op : Op) : Prop :=
  ∀ sp : Spec, (∀ s, sp.alive s = true → s ∈ st.live) → Spec.step c sp op = sp

/-- What one operation does, by the part of the state it touches. -/
private inductive Effect (c : Cfg) (st : St) : Op → St → Out → Prop
  /-- everything that leaves the session table alone -/
  | keep (op : Op) (l : List (Sid × Bool)) (ss : List Sid) (o : Out)
      (hss : ∀ x ∈ ss, x ∈ st.streams ∨ x ∈ st.live)
      (ho : (l = st.lstate ∧ ss = st.streams) ∨ o.status = 200 ∨ o.status = 202)
      (hsp : Uncounted c st op) :
      Effect c st op { st with lstate := l, streams := ss } o
  | issue (k : Kind) (l : List (Sid × Bool)) (hm : c.mode = .stateful) (hk : isInit k = true) :
      Effect c st (.post k .none) { st with issued := st.issued + 1, live := st.issued :: st.live, lstate := l }
        ⟨200, some st.issued, []⟩
  | delete (s : Sid) (o : Out) (hm : c.mode = .stateful) (hs : s ∈ st.live) (ho : o.status = 200) :
      Effect c st (.delete (.sid s)) { st with live := st.live.filter (· ≠ s), streams := st.streams.filter (· ≠ s) } o

private theorem spec_idle {c : Cfg} {st : St} {op : Op} (hm : c.mode ≠ .stateful) : Uncounted c st op := by
  intro sp _
  unfold Spec.step
  split
  · exact if_neg fun h => hm h.1
  · exact if_neg fun h => hm h.1
  · rfl

private theorem step_effect (c : Cfg) (st : St) (op : Op) : Effect c st op (step c st op).1 (step c st op).2 := by
  have idle : ∀ op o, Uncounted c st op → Effect c st op st o := fun op o h =>
    .keep op _ _ o (fun _ => .inl) (.inl ⟨rfl, rfl⟩) h
  cases op with
  | post k r =>
    have body : ∀ sess, Uncounted c st (.post k r) →
        Effect c st (.post k r) (postBody c st k sess).1 (postBody c st k sess).2 := fun sess h => by
      obtain ⟨l, hl, ho⟩ := postBody_cases c st k sess
      rw [hl]
      exact .keep _ l _ _ (fun _ => .inl) (ho.imp_left fun h => ⟨h, rfl⟩) h
    simp only [step, stepPost]
    cases hm : c.mode with
    | stateless => exact body _ (spec_idle (by simp [hm]))
    | sessionsOff => exact body _ (spec_idle (by simp [hm]))
    | stateful =>
      cases r with
      | none =>
        by_cases hk : isInit k = true
        · obtain ⟨l, hl, -⟩ :=
            postBody_cases c { st with issued := st.issued + 1, live := st.issued :: st.live } k (some st.issued)
          simp only [hk, ite_true]
          rw [hl, postBody_init _ _ _ _ hm hk]
          exact .issue k l hm hk
        · simp only [hk]
          exact idle _ _ fun sp _ => by simp [Spec.step, hk]
      | bogus => exact idle _ _ fun _ _ => rfl
      | sid s =>
        simp only
        split
        · exact body _ fun _ _ => rfl
        · exact idle _ _ fun _ _ => rfl
  | get r =>
    have refused : ∀ o, Effect c st (.get r) st o := fun o => idle _ o fun _ _ => rfl
    have noSess : Effect c st (.get r) (noSessGet c st).1 (noSessGet c st).2 := by
      unfold noSessGet; split <;> exact refused _
    simp only [step, stepGet]
    split
    · exact refused _  -- GET disabled
    · split
      · exact refused _  -- stateless
      · exact refused _  -- sessions off, no id
      · exact noSess
      · exact noSess
      · exact refused _  -- stateful, no id
      · exact refused _  -- stateful, an id this server never made
      · next s =>
        split
        · next hs =>
          -- the stream is bound to the live session (it may replace an open one)
          refine .keep _ _ _ _ (fun x hx => ?_) (.inr (.inl rfl)) fun _ _ => rfl
          rcases List.mem_cons.mp hx with rfl | hx
          · exact .inr hs
          · exact .inl (List.mem_filter.mp hx).1
        · exact refused _
  | closeStream s =>
    exact .keep _ _ _ _ (fun x hx => .inl (List.mem_filter.mp hx).1) (.inr (.inl rfl)) fun _ _ => rfl
  | delete r =>
    simp only [step, stepDelete]
    cases r with
    -- without an id, or with one this server never made, the specification does not look at the mode
    | none => exact idle _ _ fun _ _ => rfl
    | bogus => cases c.mode <;> exact idle _ _ fun _ _ => rfl
    | sid s =>
      cases hm : c.mode with
      | sessionsOff | stateless => exact idle _ _ (spec_idle (by simp [hm]))
      | stateful =>
        simp only
        split
        · next hs => exact .delete s _ hm hs rfl
        · next hs => exact idle _ _ fun sp hal => if_neg fun h => hs (hal s h.2)

theorem step_changes (c : Cfg) (st : St) (op : Op) :
    (step c st op).1 = st ∨ (step c st op).2.status = 200 ∨ (step c st op).2.status = 202 := by
  have he := step_effect c st op
  generalize (step c st op).1 = st', (step c st op).2 = o at he ⊢
  cases he with
  | keep op l ss o _ ho _ => exact ho.imp_left fun ⟨hl, hs⟩ => by rw [hl, hs]
  | issue => exact .inr (.inl rfl)
  | delete s o _ _ ho => exact .inr (.inl ho)

/-- A session id is issued only by an initialize request that carried none, and only in stateful mode. -/
theorem C04_issue_only_on_init (c : Cfg) (st : St) (op : Op)
    (h : (step c st op).1.issued ≠ st.issued) :
    c.mode = .stateful ∧ ∃ k, isInit k = true ∧ op = .post k .none ∧
      (step c st op).1.issued = st.issued + 1 ∧ (step c st op).2.sid = some st.issued ∧
      st.issued ∈ (step c st op).1.live := by
  have he := step_effect c st op
  generalize (step c st op).1 = st', (step c st op).2 = o at he h ⊢
  cases he with
  | keep => exact absurd rfl h
  | issue k l hm hk => exact ⟨hm, k, hk, rfl, rfl, rfl, List.mem_cons_self⟩
  | delete => exact absurd rfl h

/-- The invariant of the session table: every live id was issued, no id twice, streams only on live sessions. -/
def Inv (st : St) : Prop :=
  (∀ s ∈ st.live, s < st.issued) ∧ st.live.Nodup ∧ (∀ s ∈ st.streams, s ∈ st.live)

theorem inv_init : Inv {} := by simp [Inv]

private theorem Effect.inv {c : Cfg} {st st' : St} {op : Op} {o : Out} (h : Effect c st op st' o) (hi : Inv st) :
    Inv st' := by
  obtain ⟨h1, h2, h3⟩ := hi
  cases h with
  | keep op l ss o hss => exact ⟨h1, h2, fun x hx => (hss x hx).elim (h3 x) id⟩
  | issue =>
    refine ⟨fun s hs => ?_, List.nodup_cons.mpr ⟨fun hc => Nat.lt_irrefl _ (h1 _ hc), h2⟩, fun s hs => .tail _ (h3 s hs)⟩
    rcases List.mem_cons.mp hs with rfl | hs
    · exact Nat.lt_succ_self _
    · exact Nat.lt_succ_of_lt (h1 s hs)
  | delete s =>
    refine ⟨fun x hx => h1 x (List.mem_filter.mp hx).1, h2.sublist List.filter_sublist, fun x hx => ?_⟩
    simp only [List.mem_filter] at hx ⊢
    exact ⟨h3 x hx.1, hx.2⟩

/-- …so the invariant holds after every history, and a freshly issued id was never issued before
    (it is `st.issued`, and every id ever live is `< st.issued`). -/
theorem C04_inv_all (c : Cfg) (ops : List Op) : Inv (final c {} ops) :=
  List.foldlRecOn ops _ inv_init fun st h op _ => (step_effect c st op).inv h

theorem C04_fresh (c : Cfg) (st : St) (op : Op) (hi : Inv st)
    (h : (step c st op).1.issued ≠ st.issued) :
    ∃ s, (step c st op).2.sid = some s ∧ s ∉ st.live ∧ ∀ t ∈ st.live, t ≠ s := by
  obtain ⟨-, _, -, -, -, hsid, -⟩ := C04_issue_only_on_init c st op h
  have hlt : ∀ t ∈ st.live, t < st.issued := hi.1
  exact ⟨st.issued, hsid, fun hc => Nat.lt_irrefl _ (hlt _ hc), fun t ht he => Nat.lt_irrefl _ (hlt _ (he ▸ ht))⟩

/-- From issue to deletion every request bearing a live id is served in that session and answered with the same id
    (requests 200, notifications and posted answers 202). The exceptions are not requests served in a session:
    a body that is neither request, notification nor answer (400: no id and no method, or an id with neither method nor
    result nor error) and a misplaced `notifications/initialized` (500). -/
theorem C04_bound (c : Cfg) (st : St) (s : Sid) (k : Kind) (hm : c.mode = .stateful) (hl : s ∈ st.live)
    (hk : k ≠ .invalid) (hk2 : k ≠ .notifInitialized) (hk3 : k ≠ .responseEmpty) :
    let o := (step c st (.post k (.sid s))).2
    (o.status = 200 ∨ o.status = 202) ∧ o.sid = some s ∧ (step c st (.post k (.sid s))).1.live = st.live := by
  cases k <;> simp_all [step, stepPost, postBody]

theorem C04_bound_initialized (c : Cfg) (st : St) (s : Sid) (hm : c.mode = .stateful) (hl : s ∈ st.live)
    (hs : lookupState st.lstate s = some false) :
    (step c st (.post .notifInitialized (.sid s))).2 = ⟨202, some s, []⟩ := by
  simp_all [step, stepPost, postBody]

/-- A listening stream on a live session is accepted and bound to it. -/
theorem C04_bound_get (c : Cfg) (st : St) (s : Sid) (hm : c.mode = .stateful) (hg : c.getEnabled = true) (hl : s ∈ st.live) :
    (step c st (.get (.sid s))).2.status = 200 ∧ (step c st (.get (.sid s))).2.sid = some s ∧
    s ∈ (step c st (.get (.sid s))).1.streams := by
  simp_all [step, stepGet]

/-- A non-initialize request without an id is refused with 400 and changes nothing. -/
theorem C04_missing_400 (c : Cfg) (st : St) (k : Kind) (hm : c.mode = .stateful) (hk : isInit k = false) :
    step c st (.post k .none) = (st, ⟨400, none, []⟩) := by
  simp [step, stepPost, hm, hk]

/-- A request, stream or DELETE bearing an unknown, foreign-made or already deleted id is refused with 404 and
    changes nothing. -/
theorem C04_unknown_404 (c : Cfg) (st : St) (r : Ref) (hm : c.mode = .stateful)
    (hr : r = .bogus ∨ ∃ s, r = .sid s ∧ s ∉ st.live) :
    (∀ k, step c st (.post k r) = (st, ⟨404, none, []⟩)) ∧
    (c.getEnabled = true → step c st (.get r) = (st, ⟨404, none, []⟩)) ∧
    step c st (.delete r) = (st, ⟨404, none, []⟩) := by
  rcases hr with rfl | ⟨s, rfl, hs⟩ <;> simp_all [step, stepPost, stepGet, stepDelete]

/-- Every refusal (400, 404, 405, 500, 501, or an aborted connection) leaves the state exactly as it was. -/
theorem C04_refusal_is_noop (c : Cfg) (st : St) (op : Op)
    (h : (step c st op).2.status ∈ [400, 404, 405, 500, 501, 0]) : (step c st op).1 = st := by
  rcases step_changes c st op with h' | h' | h'
  · exact h'
  · rw [h'] at h; simp at h
  · rw [h'] at h; simp at h

/-- DELETE on a live session ends it together with its open stream. -/
theorem C04_delete_ends_stream (c : Cfg) (st : St) (s : Sid) (hm : c.mode = .stateful) (hl : s ∈ st.live) :
    let r := step c st (.delete (.sid s))
    r.2.status = 200 ∧ s ∉ r.1.live ∧ s ∉ r.1.streams ∧ (s ∈ st.streams → s ∈ r.2.closed) ∧
    (∀ t, t ≠ s → (t ∈ r.1.live ↔ t ∈ st.live) ∧ (t ∈ r.1.streams ↔ t ∈ st.streams)) := by
  simp_all [step, stepDelete]

/-- …and from then on the id is refused with 404 (by `C04_unknown_404`, since it is no longer live). -/
theorem C04_deleted_is_unknown (c : Cfg) (st : St) (s : Sid) (hm : c.mode = .stateful) (hl : s ∈ st.live) (k : Kind) :
    let st' := (step c st (.delete (.sid s))).1
    step c st' (.post k (.sid s)) = (st', ⟨404, none, []⟩) := by
  have h := (C04_delete_ends_stream c st s hm hl).2.1
  exact (C04_unknown_404 c _ (.sid s) hm (Or.inr ⟨s, rfl, h⟩)).1 k

/-! ## all histories: the live set is what the history leaves alive -/

private def Rel (st : St) (sp : Spec) : Prop :=
  st.issued = sp.issued ∧ (∀ s, s ∈ st.live ↔ sp.alive s = true) ∧ (∀ s ∈ sp.deleted, s < sp.issued)

private theorem alive_iff {sp : Spec} {s : Sid} : sp.alive s = true ↔ s < sp.issued ∧ s ∉ sp.deleted := by
  simp [Spec.alive]

private theorem Effect.rel {c : Cfg} {st st' : St} {op : Op} {o : Out} (h : Effect c st op st' o) {sp : Spec}
    (hr : Rel st sp) : Rel st' (Spec.step c sp op) := by
  obtain ⟨hi, hl, hd⟩ := hr
  cases h with
  | keep op l ss o _ _ hsp => rw [hsp sp fun s => (hl s).mpr]; exact ⟨hi, hl, hd⟩
  | issue k l hm hk =>
    simp only [Spec.step, hm, hk, and_self, ite_true]
    refine ⟨congrArg (· + 1) hi, fun s => ?_, fun s hs => Nat.lt_succ_of_lt (hd s hs)⟩
    simp only [List.mem_cons, hl s, alive_iff, hi]
    -- the id issued next is not among the deleted ones
    by_cases hs : s ∈ sp.deleted
    · have := hd s hs; simp [hs]; omega
    · simp [hs]; omega
  | delete s o hm hs =>
    simp only [Spec.step, hm, (hl s).mp hs, and_self, ite_true]
    refine ⟨hi, fun t => ?_, fun t ht => ?_⟩
    · simp only [List.mem_filter, hl t, alive_iff, List.mem_cons, not_or, decide_eq_true_eq, ne_eq]
      exact ⟨fun ⟨⟨a, b⟩, c⟩ => ⟨a, c, b⟩, fun ⟨a, c, b⟩ => ⟨⟨a, b⟩, c⟩⟩
    · rcases List.mem_cons.mp ht with rfl | ht
      · exact (alive_iff.mp ((hl _).mp hs)).1
      · exact hd t ht

/-- After any history the set of live sessions equals the set the history leaves alive:
    ids issued by accepted initialize-without-id requests minus ids deleted by accepted DELETEs. -/
theorem C04_live_refines (c : Cfg) (ops : List Op) (s : Sid) :
    s ∈ (final c {} ops).live ↔ (Spec.run c ops).alive s = true := by
  have h0 : Rel {} {} := ⟨rfl, by intro s; simp [Spec.alive], by simp⟩
  exact (List.foldl_rel (r := Rel) h0 fun op _ st sp h => (step_effect c st op).rel h).2.1 s

/-- What the server reports (`GetActiveSessions`) is that set in stateful mode. -/
theorem C04_reported (c : Cfg) (ops : List Op) (hm : c.mode = .stateful) :
    reported c (final c {} ops) = some (final c {} ops).live := by
  simp [reported, hm]

/-! ## stateless mode -/

private theorem stateless_step (c : Cfg) (st : St) (op : Op) (hm : c.mode = .stateless) :
    (step c st op).2 = (step c {} op).2 ∧ (step c st op).2.sid = none ∧
    (step c st op).1.issued = st.issued ∧ (step c st op).1.live = st.live := by
  cases op with
  | post k r => cases k <;> simp [step, stepPost, hm, postBody]
  | get r => simp only [step, stepGet, hm]; split <;> simp
  | closeStream s => simp [step]
  | delete r => cases r <;> simp [step, stepDelete, hm]

/-- No session id is ever issued or shown, and none is required. -/
theorem C04_stateless_no_header (c : Cfg) (st : St) (op : Op) (hm : c.mode = .stateless) :
    (step c st op).2.sid = none ∧ (step c st op).1.issued = st.issued ∧ (step c st op).1.live = st.live :=
  (stateless_step c st op hm).2

/-- Listening streams are refused with 405. -/
theorem C04_stateless_get_405 (c : Cfg) (st : St) (r : Ref) (hm : c.mode = .stateless) :
    step c st (.get r) = (st, ⟨405, none, []⟩) := by
  simp only [step, stepGet, hm]; split <;> rfl

/-- The answer to a request does not depend on any earlier request. -/
theorem C04_stateless_independent (c : Cfg) (ops : List Op) (op : Op) (hm : c.mode = .stateless) :
    (step c (final c {} ops) op).2 = (step c {} op).2 :=
  (stateless_step c _ op hm).1

/-! ## the id itself: 16 bytes from crypto/rand, hex encoded -/

/-- The regenerated facts about `generateSessionID`: ≥ 128 bits, from `crypto/rand`, rendered by `hex.EncodeToString`. -/
theorem C04_id_source : Mcp.Gen.sessionIdBytes ≥ 16 ∧ Mcp.Gen.sessionIdFromCryptoRand = true ∧
    Mcp.Gen.sessionIdHexEncoded = true := by decide

private theorem run_cons (c : Cfg) (st : St) (op : Op) (ops : List Op) :
    run c st (op :: ops) = ((run c (step c st op).1 ops).1, (step c st op).2 :: (run c (step c st op).1 ops).2) := rfl

private theorem run_replicate_idle {c : Cfg} {st : St} {op : Op} {o : Out} (h : step c st op = (st, o)) (k : Nat) :
    run c st (List.replicate k op) = (st, List.replicate k o) := by
  induction k with
  | zero => rfl
  | succ k ih => rw [List.replicate_succ, run_cons, h, ih, List.replicate_succ]

/-- Overlapping DELETEs of one live id (the table operation being atomic, any overlap is some order of the same
    operation): exactly one of them ends the session (200), every other one bears an already deleted id (404). -/
theorem C04_overlapping_deletes (c : Cfg) (hm : c.mode = .stateful) (st : St) (s : Sid) (hl : s ∈ st.live) (k : Nat) :
    (run c st (List.replicate (k + 1) (.delete (.sid s)))).2.map (·.status) = 200 :: List.replicate k 404 := by
  obtain ⟨h200, hdead, -⟩ := C04_delete_ends_stream c st s hm hl
  have h404 := run_replicate_idle (C04_unknown_404 c _ (.sid s) hm (.inr ⟨s, rfl, hdead⟩)).2.2 k
  rw [List.replicate_succ, run_cons, h404]
  simp only [List.map_cons, List.map_replicate, h200]

/-- Every method that touches the session table does so in ONE critical section of the manager's mutex, writers holding
    it exclusively (regenerated): "is the id live?" and "delete it" / "insert it" are one atomic step, which is what lets
    the model treat POST / GET / DELETE as atomic steps over the live set even when requests of several clients overlap
    (two overlapping DELETEs of one id: exactly one finds it). -/
theorem C04_table_ops_atomic :
    Mcp.Gen.sessionTableOps ≠ [] ∧
    ∀ op ∈ Mcp.Gen.sessionTableOps, op.2.1 = 1 ∧ (op.2.2.1 = true → op.2.2.2 = true) := by
  decide

/-- The sweeper (`cleanupExpiredSessions`, run once per tick) as a function of the regenerated unit: a session idle for
    `idleNs` nanoseconds is removed iff `idleNs > expiryUnits * nsPerUnit`. -/
def sweepRemoves (nsPerUnit expiryUnits idleNs : Nat) : Bool := decide (idleNs > expiryUnits * nsPerUnit)

/-- The histories of the statement are clock-free: nothing but DELETE ends a session. That is the code's behaviour as
    long as the sweeper leaves sessions alone, i.e. for sessions idle at most the configured number of **seconds**
    (default 3600): with the unit the code uses today, no sweep — at whatever instant it runs — removes a session that was
    active within the last `expirySeconds` seconds, for every configured value and every idle time. -/
theorem C04_sweep_keeps_active (expirySeconds idleNs : Nat) (h : idleNs ≤ expirySeconds * 1000000000) :
    sweepRemoves Mcp.Gen.sessionExpiryNsPerUnit expirySeconds idleNs = false := by
  have hu : Mcp.Gen.sessionExpiryNsPerUnit = 1000000000 := by decide
  simp only [sweepRemoves, hu, decide_eq_false_iff_not]
  omega

/-- … and a session idle longer than that is removed by the next sweep (the expiry exists). -/
theorem C04_sweep_removes_expired (expirySeconds idleNs : Nat) (h : expirySeconds * 1000000000 < idleNs) :
    sweepRemoves Mcp.Gen.sessionExpiryNsPerUnit expirySeconds idleNs = true := by
  have hu : Mcp.Gen.sessionExpiryNsPerUnit = 1000000000 := by decide
  simp only [sweepRemoves, hu, decide_eq_true_eq]
  omega

/-- Bad region of the family: were the configured number taken as nanoseconds (unit 1), the first sweep would remove a
    session of the default configuration (3600) that was served one second ago — without any DELETE. -/
theorem C04_sweep_unit_witness : sweepRemoves 1 3600 1000000000 = true := by decide

/-- the sweeper's ticker period was understood (one minute today): the thorough tier's idle history waits past it. -/
theorem C04_sweep_tick_fact : 0 < Mcp.Gen.sessionSweepTickNs ∧ Mcp.Gen.sessionSweepTickNs ≤ 60000000000 := by decide

-- non-vacuity: the default configuration, a session idle for 59 minutes
example : sweepRemoves Mcp.Gen.sessionExpiryNsPerUnit 3600 (59 * 60 * 1000000000) = false := by decide

open Mcp.Ids in
/-- Hex rendering is injective (two different 128-bit draws give two different ids), has two characters per byte
    and uses only `0-9a-f` (visible ASCII). -/
theorem C04_hex (a b : List Nat) (ha : ∀ x ∈ a, x < 256) (hb : ∀ x ∈ b, x < 256) :
    (hexEncode a = hexEncode b → a = b) ∧ (hexEncode a).length = 2 * a.length ∧
    (∀ ch ∈ hexEncode a, (48 ≤ ch ∧ ch ≤ 57) ∨ (97 ≤ ch ∧ ch ≤ 102)) :=
  ⟨hexEncode_inj a b ha hb, hexEncode_length a, hexEncode_chars a ha⟩

-- non-vacuity: a concrete history — two sessions, one stream, one delete
example :
    let c : Cfg := ⟨.stateful, true, true⟩
    let r := run c {} [.post .initOk .none, .post .initOk .none, .get (.sid 0), .post .request (.sid 1),
                       .delete (.sid 0), .post .request (.sid 0), .post .request .none]
    r.2.map (·.status) = [200, 200, 200, 200, 200, 404, 400] ∧ r.1.live = [1] ∧ r.1.streams = [] := by decide

example : (step ⟨.stateless, true, true⟩ {} (.post .initOk .none)).2 = ⟨200, none, []⟩ := by decide

end Mcp.Props.C04
