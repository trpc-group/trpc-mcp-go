/-
  C10 — in-call notifications arrive complete, in order and before the result.
  Model: `Mcp.Model.InCall`; facts: `Mcp.Gen.InCallFacts` (regenerated from /repo on every run).
-/
import Mcp.Model.InCall
import Mcp.Gen.InCallFacts
import Mcp.Props.C02Wire
namespace Mcp.Props.C10
open Mcp.Str Mcp.Json Mcp.InCall

/-- the facts of the source as it is now -/
def facts : Facts := ⟨Mcp.Gen.icPostStreamWriters, Mcp.Gen.icDispatchSync, Mcp.Gen.icDrainWithHandlers⟩

/-! ## NotificationParams: what survives marshal → unmarshal -/

private theorem lookup_erase_self (m : Obj) (k : Text) : lookup (erase m k) k = none := by
  simp [lookup_eq_find?, erase]

private theorem erase_eq_self {m : Obj} {k : Text} : erase m k = m ↔ lookup m k = none := by
  simp [lookup_eq_find?, erase]

private theorem erase_erase (m : Obj) (k : Text) : erase (erase m k) k = erase m k :=
  erase_eq_self.2 (lookup_erase_self m k)

/-- what the client decodes from params the server marshalled, in closed form -/
theorem C10_unmarshal_marshal (p : NParams) : unmarshal (marshal p) = some (onWire p) := rfl

/-- `onWire` in closed form: `Meta` always survives; of the additional fields everything but a `_meta` entry -/
theorem C10_onWire_closed (p : NParams) :
    onWire p = ⟨if p.metaMap.isEmpty then metaOf p.extra else p.metaMap, erase p.extra metaKey⟩ := by
  unfold onWire marshalFields
  by_cases h : p.metaMap.isEmpty
  · simp [h]
  · simp [h, metaOf, erase]

private theorem metaOf_erase (m : Obj) : metaOf (erase m metaKey) = [] := by
  simp [metaOf, lookup_erase_self]

private theorem onWire_erased (mm fs : Obj) : onWire ⟨mm, erase fs metaKey⟩ = ⟨mm, erase fs metaKey⟩ := by
  rw [C10_onWire_closed]
  cases mm <;> simp [metaOf_erase, erase_erase]

private theorem onWire_noMeta (fs : Obj) : onWire ⟨[], fs⟩ = ⟨metaOf fs, erase fs metaKey⟩ := by
  rw [C10_onWire_closed]; rfl

/-- **params round trip**: `Meta` (any object, empty included) and additional fields without a `_meta` key come back
    exactly -/
theorem C10_params_roundtrip (p : NParams) (h : lookup p.extra metaKey = none) :
    unmarshal (marshal p) = some p := by
  obtain ⟨m, e⟩ := p
  rw [C10_unmarshal_marshal, ← (erase_eq_self (m := e)).2 h, onWire_erased]

/-- … and that is exactly the set of values that survive -/
theorem C10_params_roundtrip_iff (p : NParams) :
    unmarshal (marshal p) = some p ↔ lookup p.extra metaKey = none := by
  constructor
  · intro h
    rw [C10_unmarshal_marshal, C10_onWire_closed] at h
    exact erase_eq_self.1 (congrArg NParams.extra (Option.some.inj h))
  · exact C10_params_roundtrip p

/-! ## the flat params a handler passes to the sender, end to end -/

/-- **`SendCustomNotification(method, fs)` end to end**: the client's handler gets every field of `fs` but `_meta` as
    additional fields, and `_meta` as `Meta` iff it is an object -/
theorem C10_custom_delivery (fs : Obj) : onWire (splitCustom fs) = ⟨metaOf fs, erase fs metaKey⟩ := by
  unfold splitCustom
  split
  · next mm h => rw [onWire_erased, metaOf, h]
  · exact onWire_noMeta fs

/-- `SendNotification(NewNotification(method, fs))` end to end: the same view -/
theorem C10_new_delivery (fs : Obj) : onWire (splitNew fs) = ⟨metaOf fs, erase fs metaKey⟩ := by
  unfold splitNew
  split
  · next mm h => rw [onWire_erased, metaOf, h]
  · next v hv h =>
    rw [onWire_erased, metaOf, h]
    split
    · next mm heq => exact absurd (Option.some.inj heq) (hv mm)
    · rfl
  · exact onWire_noMeta fs

/-- an object-valued `_meta` arrives intact as `Meta`, next to all the other fields -/
theorem C10_meta_intact (fs mm : Obj) (h : lookup fs metaKey = some (.obj mm)) :
    onWire (splitCustom fs) = ⟨mm, erase fs metaKey⟩ ∧ onWire (splitNew fs) = ⟨mm, erase fs metaKey⟩ := by
  rw [C10_custom_delivery, C10_new_delivery]; simp [metaOf, h]

/-- without `_meta` the fields arrive as they are -/
theorem C10_meta_absent (fs : Obj) (h : lookup fs metaKey = none) :
    onWire (splitCustom fs) = ⟨[], fs⟩ ∧ onWire (splitNew fs) = ⟨[], fs⟩ := by
  rw [C10_custom_delivery, C10_new_delivery]; simp [metaOf, h, erase_eq_self.2 h]

/-- **counterexample for the rest**: a `_meta` that is not an object (a number, a string, an array, `null`, …) reaches the
    wire (custom) or not even that (NewNotification) and is dropped by the client: the handler sees no trace of it -/
theorem C10_meta_nonobject_lost (fs : Obj) (v : Json) (h : lookup fs metaKey = some v) (hv : asObj? v = none) :
    onWire (splitCustom fs) = ⟨[], erase fs metaKey⟩ ∧ onWire (splitNew fs) = ⟨[], erase fs metaKey⟩ := by
  rw [C10_custom_delivery, C10_new_delivery]
  cases v <;> simp_all [metaOf, asObj?]

example : marshalFields (splitCustom [(metaKey, .int 5), (t!"a", .int 1)]) = [(metaKey, .int 5), (t!"a", .int 1)] := rfl
example : onWire (splitCustom [(metaKey, .int 5), (t!"a", .int 1)]) = ⟨[], [(t!"a", .int 1)]⟩ := rfl
example : onWire (splitCustom [(t!"a", .int 1), (metaKey, .obj [(t!"progressToken", .str t!"t")])])
    = ⟨[(t!"progressToken", .str t!"t")], [(t!"a", .int 1)]⟩ := rfl
/-- additional fields that themselves hold `_meta` next to a non-empty `Meta`: the field is not even marshalled -/
example : unmarshal (marshal ⟨[(t!"k", .null)], [(metaKey, .str t!"x")]⟩) = some ⟨[(t!"k", .null)], []⟩ := rfl


/-! ## the stream: server frames through the client's read loop -/

/-- a notification as the client's handler receives it -/
def delivered (n : Notif) : Notif := ⟨n.method, onWire n.params⟩

/-- the notifications among the events -/
def handledOf : Ev → Option Notif
  | .handled n => some n
  | _ => none

private theorem classify_notif (reqId : Nat) (n : Notif) : classify reqId (notifJson n) = .notif (delivered n) := by
  simp [classify, asResponse, notifJson, decodeNotif, strField, lookup, jsonrpcField, marshal, unmarshal, delivered, onWire]

/-- regenerated fact, decided: the POST-SSE matcher compares `requestIDKey` renderings (D01 repaired) -/
theorem C10_fact_id_key : idKeyToday = true := by decide

private theorem classify_answer (reqId : Nat) (a : Answer) :
    classify reqId (answerJson reqId a) = .response (some (answerRaw reqId a)) := by
  cases a <;>
    simp [classify, asResponse, answerJson, lookup, jsonrpcField, fmtVMatches, idMatchesK, C10_fact_id_key, responseOf, hasKey, answerRaw]

private def feed (f : Facts) (hs : List Text) (st : RS) (ns : List Notif) : RS :=
  ns.foldl (fun s n => dispatch f hs s (delivered n)) st

private theorem readLoop_notifs (f : Facts) (hs : List Text) (reqId : Nat) (ns : List Notif) (rest : List Json) (st : RS) :
    readLoop f hs reqId (ns.map notifJson ++ rest) st = readLoop f hs reqId rest (feed f hs st ns) := by
  induction ns generalizing st with
  | nil => rfl
  | cons n ns ih =>
    simp only [List.map_cons, List.cons_append, readLoop, classify_notif]
    exact ih _

private theorem readLoop_answer (f : Facts) (hs : List Text) (reqId : Nat) (a : Answer) (rest : List Json) (st : RS) :
    readLoop f hs reqId (answerJson reqId a :: rest) st =
      if hs.isEmpty || !f.drainWithHandlers then finish st (.ret (answerRaw reqId a))
      else readLoop f hs reqId rest { st with result := some (answerRaw reqId a) } := by
  simp only [readLoop, classify_answer]

@[simp] private theorem delivered_method (n : Notif) : (delivered n).method = n.method := rfl

private theorem feed_sync (f : Facts) (hsync : f.syncDispatch = true) (hs : List Text) (ns : List Notif) (st : RS) :
    feed f hs st ns = { st with trace := st.trace ++
      ((ns.filter (fun n => hs.contains n.method)).map (fun n => Ev.handled (delivered n))) } := by
  induction ns generalizing st with
  | nil => simp [feed]
  | cons n rest ih =>
    simp only [feed, List.foldl_cons] at ih ⊢
    rw [ih]
    by_cases h : n.method ∈ hs <;> simp [dispatch, hsync, h]

private theorem feed_none (f : Facts) (hs : List Text) (ns : List Notif) (st : RS)
    (h : ∀ n ∈ ns, hs.contains n.method = false) : feed f hs st ns = st :=
  List.foldlRecOn (motive := (· = st)) ns _ rfl fun s hst n hn => by
    have hd : ¬ n.method ∈ hs := by simpa using h n hn
    simp [hst, dispatch, hd]

private theorem call_json (f : Facts) (hs : List Text) (reqId : Nat) (es : List Emit) (a : Answer) :
    call f false hs reqId es a = [.ret (answerRaw reqId a)] := by
  cases a <;> simp [call, readJsonBody, answerJson, hasKey, lookup, jsonrpcField, answerRaw]

private theorem call_sse (f : Facts) (hs : List Text) (reqId : Nat) (es : List Emit) (a : Answer) :
    call f true hs reqId es a = finish (feed f hs RS.init (es.map Emit.notif)) (.ret (answerRaw reqId a)) := by
  have : serverFrames reqId es a = (es.map Emit.notif).map notifJson ++ [answerJson reqId a] := by
    simp [serverFrames]
  rw [call, if_pos rfl, this, readLoop_notifs, readLoop_answer]
  split <;> rfl

/-- **in order, exactly once**: with synchronous dispatch the events of a call over an SSE response are: one handler
    invocation per emitted notification whose method has a handler — in emission order, each once, with the params as
    `onWire` gives them (`C10_custom_delivery`) — and then the return with the answer. For all numbers and kinds of
    notifications, all payloads, all handler registrations. -/
theorem C10_order_once (f : Facts) (hsync : f.syncDispatch = true) (hs : List Text) (reqId : Nat) (es : List Emit) (a : Answer) :
    call f true hs reqId es a
      = ((es.map Emit.notif).filter (fun n => hs.contains n.method)).map (fun n => Ev.handled (delivered n))
        ++ [.ret (answerRaw reqId a)] := by
  rw [call_sse, feed_sync f hsync]
  simp [finish, RS.init]

/-- each handler, seen on its own: the handler of method `m` saw exactly the emitted notifications of method `m`,
    in emission order -/
theorem C10_per_handler (f : Facts) (hsync : f.syncDispatch = true) (hs : List Text) (reqId : Nat) (es : List Emit) (a : Answer) (m : Text) (hm : hs.contains m = true) :
    ((call f true hs reqId es a).filterMap handledOf).filter (fun n => n.method == m)
      = ((es.map Emit.notif).filter (fun n => n.method == m)).map delivered := by
  -- a notification of method `m` has a handler: the two filters pick the same ones
  have hfil : ∀ n : Notif, (n.method == m && decide (n.method ∈ hs)) = (n.method == m) := fun n => by
    by_cases h : n.method = m <;> simp_all
  simp [C10_order_once f hsync hs reqId, Function.comp_def, handledOf, List.filter_map, hfil]

/-- **before the result**: the trace is handler invocations only, then the return — nothing is handled afterwards -/
theorem C10_before_result (f : Facts) (hsync : f.syncDispatch = true) (hs : List Text) (reqId : Nat) (es : List Emit) (a : Answer) :
    ∃ pre r, call f true hs reqId es a = pre ++ [.ret r] ∧ ∀ e ∈ pre, ∃ n, e = .handled n :=
  ⟨_, _, C10_order_once f hsync hs reqId es a, List.forall_mem_map.2 fun _ _ => ⟨_, rfl⟩⟩

/-- **the result still arrives, unchanged**: the call returns once, and what it returns is the handler's answer — in
    both response modes, for any number of notifications before it -/
theorem C10_result_intact (f : Facts) (hsync : f.syncDispatch = true) (sse : Bool) (hs : List Text) (reqId : Nat) (es : List Emit) (a : Answer) (r : Json) :
    Ev.ret r ∈ call f sse hs reqId es a ↔ r = answerRaw reqId a := by
  cases sse with
  | true =>
    rw [C10_order_once f hsync hs reqId]
    simp
  | false => simp [call_json]

/-- **dropped without harm**: in JSON response mode (no-op sender), and over SSE when no handler is registered for any
    emitted method, the call is just the return of the unchanged answer — whatever the facts -/
theorem C10_dropped_harmless (f : Facts) (hs : List Text) (reqId : Nat)
    (es : List Emit) (a : Answer) :
    call f false hs reqId es a = [.ret (answerRaw reqId a)] ∧
    ((∀ e ∈ es, hs.contains e.notif.method = false) → call f true hs reqId es a = [.ret (answerRaw reqId a)]) := by
  refine ⟨call_json f hs reqId es a, fun h => ?_⟩
  rw [call_sse, feed_none _ _ _ _ (by simpa using h)]
  rfl

/-- frames after the answer (not produced by this server, but legal on a stream): with handlers registered the loop
    reads on and still delivers them before it returns -/
theorem C10_late_notifications_delivered (f : Facts) (hsync : f.syncDispatch = true) (hdrain : f.drainWithHandlers = true)
    (hs : List Text) (hne : hs ≠ []) (reqId : Nat) (pre post : List Notif) (a : Answer) :
    readLoop f hs reqId (pre.map notifJson ++ answerJson reqId a :: post.map notifJson) RS.init
      = (((pre ++ post).filter (fun n => hs.contains n.method)).map (fun n => Ev.handled (delivered n)))
        ++ [.ret (answerRaw reqId a)] := by
  have hemp : hs.isEmpty = false := by cases hs <;> simp_all
  rw [readLoop_notifs, readLoop_answer, ← List.append_nil (post.map notifJson), readLoop_notifs, feed_sync f hsync,
    feed_sync f hsync]
  simp [hemp, hdrain, readLoop, finish, RS.init]


/-! ## what breaks outside the good region of the client facts -/

/-- handlers started with `go`: there is a run in which the call returns before the notification is handled -/
theorem C10_async_dispatch_counterexample :
    call ⟨1, false, true⟩ true [t!"m"] 1 [.custom t!"m" []] (.ok .null)
      = [.ret .null, .handled ⟨t!"m", ⟨[], []⟩⟩] := rfl

/-- a loop that returns at the answer frame although handlers are registered loses what follows on the stream -/
theorem C10_no_drain_counterexample :
    readLoop ⟨1, true, false⟩ [t!"m"] 1 [answerJson 1 (.ok .null), notifJson ⟨t!"m", ⟨[], []⟩⟩] RS.init = [.ret .null] := rfl

/-! ## event ids -/

private theorem notifIds_ctrs (clock : Nat → Nat) : ∀ n k c,
    (notifIds clock n k c).1.map EvId.ctr = List.range' (c + 1) n ∧ (notifIds clock n k c).2 = c + n
  | 0, _, _ => by simp [notifIds]
  | n + 1, k, c => by
    have ih := notifIds_ctrs clock n (k + 1) (c + 1)
    simp only [notifIds, gen, List.map_cons, ih, List.range'_succ]
    exact ⟨by simp, by omega⟩

theorem C10_stream_has_all_ids (w : Nat) (clock : Nat → Nat) (n : Nat) : (streamIds w clock n).length = n + 1 := by
  have := congrArg List.length (notifIds_ctrs clock n 0 0).1
  simp at this
  simp [streamIds, this]

/-- **ids are pairwise distinct on a one-writer stream**: for ANY clock — standing still, jumping back — and any
    number of notifications, because the counter of the one writer object only grows -/
theorem C10_ids_distinct (clock : Nat → Nat) (n : Nat) : (streamIds 1 clock n).Nodup := by
  refine List.Pairwise.of_map (S := (· ≠ ·)) EvId.ctr (fun _ _ hne e => hne (e ▸ rfl)) ?_
  have h := notifIds_ctrs clock n 0 0
  simp only [streamIds, if_true, gen, List.map_append, List.map_cons, List.map_nil, h.1, h.2]
  have : List.range' (0 + 1) n ++ [0 + n + 1] = List.range' 1 (n + 1) := by
    rw [List.range'_concat]; simp; omega
  rw [this]
  exact List.nodup_range' 1

/-- **two writer objects**: as soon as the answer is written in the millisecond of the first notification, the stream
    carries `evt-<ms>-1` twice — for every number of notifications ≥ 1 -/
theorem C10_ids_two_writers_counterexample (clock : Nat → Nat) (n : Nat) (hn : 0 < n) (hms : clock n = clock 0) :
    ¬ (streamIds 2 clock n).Nodup := by
  cases n with
  | zero => omega
  | succ m =>
    simp only [streamIds, notifIds, gen, show (2 : Nat) ≠ 1 by decide, if_false, hms, List.cons_append]
    intro h
    exact (List.nodup_cons.mp h).1 (by simp)

example : streamIds 2 (fun _ => 1759000000000) 3
    = [⟨1759000000000, 1⟩, ⟨1759000000000, 2⟩, ⟨1759000000000, 3⟩, ⟨1759000000000, 1⟩] := by decide
example : streamIds 1 (fun _ => 1759000000000) 3
    = [⟨1759000000000, 1⟩, ⟨1759000000000, 2⟩, ⟨1759000000000, 3⟩, ⟨1759000000000, 4⟩] := by decide

/-! ### … and so are their texts `evt-<ms>-<counter>` -/

private theorem split_unique {x : Nat} {a a' b b' : Text} (h1 : x ∉ a) (h2 : x ∉ a') (h : a ++ x :: b = a' ++ x :: b') :
    a = a' ∧ b = b' := by
  have key : ∀ {a b : Text}, x ∉ a → (a ++ x :: b).takeWhile (· != x) = a := fun h => by
    rw [List.takeWhile_append_of_pos (by simpa using fun y hy (e : y = x) => h (e ▸ hy))]
    simp
  obtain rfl : a = a' := by rw [← key h1, h, key h2]
  exact ⟨rfl, (List.cons.inj (List.append_cancel_left h)).2⟩

private theorem natDigits_not_mem {c : Nat} (h : c < 48) (n : Nat) : c ∉ natDigits n := fun m => by
  have := natDigits_chars n c m
  omega

/-- the rendering `evt-%d-%d` is injective: distinct (ms, counter) pairs print differently -/
theorem C10_id_text_injective (e1 e2 : EvId) (h : idText e1 = idText e2) : e1 = e2 := by
  have h' : t!"evt-" ++ (natDigits e1.ms ++ 45 :: natDigits e1.ctr)
      = t!"evt-" ++ (natDigits e2.ms ++ 45 :: natDigits e2.ctr) := by simpa [idText] using h
  obtain ⟨hms, hctr⟩ := split_unique (natDigits_not_mem (by decide) _) (natDigits_not_mem (by decide) _)
    (List.append_cancel_left h')
  cases e1; cases e2
  simp only [EvId.mk.injEq]
  exact ⟨natDigits_inj hms, natDigits_inj hctr⟩

/-- the `id:` lines of a one-writer stream are pairwise distinct as texts -/
theorem C10_id_lines_distinct (clock : Nat → Nat) (n : Nat) : ((streamIds 1 clock n).map idText).Nodup :=
  List.Pairwise.map idText (fun a b hne h => hne (C10_id_text_injective a b h)) (C10_ids_distinct clock n)

example : idText ⟨1759000000000, 12⟩ = t!"evt-1759000000000-12" := by decide


/-! ## the bytes: many events on one stream -/

private theorem idText_no_lf (e : EvId) : (10 : Nat) ∉ idText e := by
  simp [idText, natDigits_not_mem]

open Mcp.Escape in
/-- **many events, one stream**: whatever the number of events, their ids and their (object) messages, the library's
    per-line reader hands exactly the message texts to the JSON decoder — each once, in writing order; bursts are
    neither merged nor split -/
theorem C10_wire_reads_back (evs : List (EvId × Json)) (hobj : ∀ e ∈ evs, ∃ kvs, e.2 = .obj kvs) :
    clientDataLines (streamText evs) = evs.map (fun e => render e.2) := by
  induction evs with
  | nil => rfl
  | cons e rest ih =>
    obtain ⟨i, j⟩ := e
    obtain ⟨⟨kvs, rfl : j = _⟩, hrest⟩ := List.forall_mem_cons.1 hobj
    obtain ⟨a, ha⟩ : ∃ a, writeEvent (idText i) (render (.obj kvs)) = a ++ [10] := ⟨_, rfl⟩
    simp only [streamText, List.map_cons]
    rw [ha, clientDataLines_append, ← ha, Mcp.Props.C02.C02_client_reads_message (idText i) kvs (idText_no_lf i), ih hrest]
    rfl

private theorem serverFrames_objects (reqId : Nat) (es : List Emit) (a : Answer) :
    ∀ j ∈ serverFrames reqId es a, ∃ kvs, j = .obj kvs := by
  intro j hj
  simp only [serverFrames, List.mem_append, List.mem_map, List.mem_singleton] at hj
  rcases hj with ⟨e, _, rfl⟩ | rfl
  · exact ⟨_, rfl⟩
  · cases a <;> exact ⟨_, rfl⟩

open Mcp.Escape in
/-- … in particular the stream a tool call produces: the decoder gets the notifications' texts, then the answer's -/
theorem C10_call_stream_reads_back (reqId : Nat) (es : List Emit) (a : Answer) (ids : List EvId) :
    clientDataLines (streamText (ids.zip (serverFrames reqId es a)))
      = ((ids.zip (serverFrames reqId es a)).map (fun e => render e.2)) := by
  apply C10_wire_reads_back
  intro e he
  exact serverFrames_objects reqId es a e.2 (List.of_mem_zip he).2

/-! ## handler registration histories: the last registration wins -/

/-- what a history says about method `m`, read backwards (newest operation first): the latest operation that names `m`
    decides — written from the statement, without the table -/
def lastReg : List RegOp → Text → Option Nat
  | [], _ => none
  | .register k h :: older, m => if k = m then some h else lastReg older m
  | .unregister k :: older, m => if k = m then none else lastReg older m

private theorem handlerFor_eq (t : Table) (m : Text) : handlerFor t m = (t.find? (·.1 = m)).map (·.2) := by
  induction t with
  | nil => rfl
  | cons kv t ih => by_cases h : kv.1 = m <;> simp [handlerFor, h, ih]

private theorem handlerFor_erase (t : Table) (k m : Text) :
    handlerFor (tableErase t k) m = if k = m then none else handlerFor t m := by
  simp only [handlerFor_eq, tableErase, find?_filter_key t (· != k)]
  by_cases h : k = m
  · simp [h]
  · simp [h, Ne.symm h]

private theorem handlerFor_rev (rops : List RegOp) (m : Text) :
    handlerFor (tableAfter rops.reverse) m = lastReg rops m := by
  induction rops with
  | nil => rfl
  | cons op older ih =>
    simp only [tableAfter, List.reverse_cons, List.foldl_append, List.foldl_cons, List.foldl_nil] at ih ⊢
    cases op with
    | register k h =>
      simp only [applyReg, handlerFor, handlerFor_erase, lastReg, ih]
      split <;> simp [*]
    | unregister k => simp only [applyReg, handlerFor_erase, lastReg, ih]

/-- **last registration wins**: after ANY history of Register / Unregister on a client — re-registering a method with
    another handler, unregistering, registering again, in any order and number — the handler the table yields for method
    `m` is the one of the latest `Register(m, ·)` that no `Unregister(m)` follows, and none if there is no such -/
theorem C10_last_registration_wins (ops : List RegOp) (m : Text) :
    handlerFor (tableAfter ops) m = lastReg ops.reverse m := by
  have := handlerFor_rev ops.reverse m
  rwa [List.reverse_reverse] at this

private theorem mem_methods (t : Table) (m : Text) : m ∈ methods t ↔ (handlerFor t m).isSome = true := by
  simp [handlerFor_eq, methods]

/-- **… and that handler gets the call's notifications**: after any registration history a call's events are, for each
    emitted notification whose method has a live registration, one invocation of exactly the lastly registered handler
    instance — in emission order — then the return -/
theorem C10_history_dispatch (f : Facts) (hsync : f.syncDispatch = true) (ops : List RegOp) (reqId : Nat) (es : List Emit) (a : Answer) :
    callH f true (tableAfter ops) reqId es a
      = ((es.map Emit.notif).filter (fun n => (lastReg ops.reverse n.method).isSome)).map
          (fun n => (Ev.handled (delivered n), lastReg ops.reverse n.method))
        ++ [(.ret (answerRaw reqId a), none)] := by
  simp [callH, C10_order_once f hsync _ reqId, ranBy, mem_methods, C10_last_registration_wins]

/-- Register(m, 1), a call, Register(m, 2) without unregistering: the second call's notifications go to instance 2 -/
example : callH ⟨1, true, true⟩ true (tableAfter [.register t!"m" 1, .register t!"x" 5, .register t!"m" 2]) 3
      [.custom t!"m" []] (.ok .null)
    = [(.handled ⟨t!"m", ⟨[], []⟩⟩, some 2), (.ret .null, none)] := rfl

example : lastReg [RegOp.register t!"m" 3, .unregister t!"m", .register t!"m" 1] t!"m" = some 3 := rfl
example : tableAfter [.register t!"m" 1, .unregister t!"m"] = [] := rfl

/-! ## notifications the sender refuses (unencodable: NaN progress, chan / func values, failing MarshalJSON)

  The sender marshals before it writes (`C10_fact_marshal_before_write`), so a refused attempt leaves no trace on the
  stream: the call is the call of the remaining emits. -/

/-- what is sent is what was attempted minus the refused attempts: same order, each once (a sublist) -/
theorem C10_sent_sublist (as : List Attempt) : ((sent as).map Attempt.enc).Sublist as := by
  induction as with
  | nil => exact List.Sublist.slnil
  | cons x rest ih =>
    cases x with
    | enc e => exact ih.cons_cons _
    | refused => exact ih.cons _

/-- every encodable attempt is sent, nothing else is -/
theorem C10_sent_mem (as : List Attempt) (e : Emit) : e ∈ sent as ↔ Attempt.enc e ∈ as := by
  induction as with
  | nil => simp [sent]
  | cons x rest ih => cases x <;> simp [sent, ih]

/-- refusing in between is neutral: attempts before and after a refused one are sent as if it had not been tried -/
theorem C10_sent_append (as bs : List Attempt) : sent (as ++ bs) = sent as ++ sent bs := by
  induction as with
  | nil => rfl
  | cons x rest ih => cases x <;> simp [sent, ih]

/-- **refused notifications do no harm**: whatever unencodable notifications the handler tries to send, at whatever
    positions, the call is: one handler invocation per ENCODABLE emitted notification whose method has a handler, in
    emission order, each once, then the single return of the handler's unchanged answer -/
theorem C10_refused_harmless (f : Facts) (hsync : f.syncDispatch = true) (hs : List Text) (reqId : Nat) (as : List Attempt) (a : Answer) :
    callA f true hs reqId as a
      = (((sent as).map Emit.notif).filter (fun n => hs.contains n.method)).map (fun n => Ev.handled (delivered n))
        ++ [.ret (answerRaw reqId a)] :=
  C10_order_once f hsync hs reqId (sent as) a

/-- the result is intact in both response modes, whatever was refused before it -/
theorem C10_refused_result_intact (f : Facts) (hsync : f.syncDispatch = true) (sse : Bool) (hs : List Text) (reqId : Nat)
    (as : List Attempt) (a : Answer) (r : Json) :
    Ev.ret r ∈ callA f sse hs reqId as a ↔ r = answerRaw reqId a :=
  C10_result_intact f hsync sse hs reqId (sent as) a r

/-- the stream carries one frame per encodable attempt and the answer -/
theorem C10_refused_frame_count (reqId : Nat) (as : List Attempt) (a : Answer) :
    (framesA reqId as a).length = (sent as).length + 1 := by
  simp [framesA, serverFrames]

/-- only refused attempts: the call is just the return -/
theorem C10_only_refused (f : Facts) (sse : Bool) (hs : List Text) (reqId : Nat) (n : Nat) (a : Answer) :
    callA f sse hs reqId (List.replicate n .refused) a = call f sse hs reqId [] a := by
  have h : sent (List.replicate n Attempt.refused) = [] :=
    List.eq_nil_iff_forall_not_mem.2 fun e he => by simpa using (C10_sent_mem _ e).1 he
  simp [callA, h]

/-- valid, refused, refused, valid: the two valid ones are handled in order, then the answer -/
example : callA ⟨1, true, true⟩ true [t!"m", messageMethod] 7
      [.enc (.custom t!"m" [(t!"a", .int 1)]), .refused, .refused, .enc (.log t!"info" t!"hi")] (.ok (.str t!"done"))
    = [ .handled ⟨t!"m", ⟨[], [(t!"a", .int 1)]⟩⟩,
        .handled ⟨messageMethod, ⟨[], [(t!"level", .str t!"info"),
          (t!"data", .obj [(t!"type", .str t!"log_message"), (t!"message", .str t!"hi")])]⟩⟩,
        .ret (.str t!"done") ] := rfl

example : (framesA 7 [.refused, .enc (.custom t!"m" []), .refused] (.ok .null)).length = 2 := rfl

/-! ## instance obligations over the regenerated facts -/

/-- the sender and the responder of one POST-SSE stream draw event ids from ONE counter -/
theorem C10_fact_one_writer : facts.writers = 1 := by decide

/-- the client calls notification handlers in its read loop -/
theorem C10_fact_sync_dispatch : facts.syncDispatch = true := by decide

/-- the client's early return at the answer frame is taken only when no handler is registered -/
theorem C10_fact_drain_with_handlers : facts.drainWithHandlers = true := by decide

/-- the event id is `evt-<ms>-<counter>`, the counter an atomic increment of a field of the writer -/
theorem C10_fact_id_shape : Mcp.Gen.icIdIsMsCounter = true ∧ Mcp.Gen.icResponderOwnsWriter = true := by decide

/-- the sender marshals the whole notification before it takes an event id or writes to the stream: an unencodable
    notification is refused without a trace (the region in which `sent` is the stream's content) -/
theorem C10_fact_marshal_before_write : Mcp.Gen.icMarshalBeforeWrite = true := by decide

/-! ## non-vacuity -/

/-- three notifications of three kinds, handlers for two of the methods, a `_meta` object: two are handled in order, the
    custom one is dropped, the answer follows -/
example :
    call ⟨1, true, true⟩ true [progressMethod, messageMethod] 7
      [.progress (.dec 5 1) t!"half", .custom t!"x/y" [(t!"k", .int 1)], .log t!"info" t!"hi"] (.ok (.str t!"done"))
    = [ .handled ⟨progressMethod, ⟨[], [(t!"progress", .dec 5 1), (t!"message", .str t!"half"),
          (t!"data", .obj [(t!"type", .str t!"process_progress"), (t!"progress", .dec 5 1), (t!"message", .str t!"half")])]⟩⟩,
        .handled ⟨messageMethod, ⟨[], [(t!"level", .str t!"info"),
          (t!"data", .obj [(t!"type", .str t!"log_message"), (t!"message", .str t!"hi")])]⟩⟩,
        .ret (.str t!"done") ] := rfl

example : call ⟨1, true, true⟩ true [t!"m"] 7 [.viaNew t!"m" [(metaKey, .obj [(t!"t", .int 3)]), (t!"a", .null)]] (.err (-32603) t!"boom")
    = [ .handled ⟨t!"m", ⟨[(t!"t", .int 3)], [(t!"a", .null)]⟩⟩, .ret (answerJson 7 (.err (-32603) t!"boom")) ] := rfl

/-- JSON mode: nothing but the answer -/
example : call ⟨1, true, true⟩ false [t!"m"] 7 [.custom t!"m" []] (.ok .null) = [.ret .null] := rfl

/-- a request id from 10^6 on is recognised like any other (since the D01 repair the matcher compares `requestIDKey`
    renderings; the `%v` comparison it replaced did not: `idMatchesK false`) -/
example : call ⟨1, true, true⟩ true [] 1000000 [] (.ok .null) = [.ret .null] := rfl
example : idMatchesK false (.int 1000000) 1000000 = false ∧ idMatchesK true (.int 1000000) 1000000 = true ∧
    idMatchesK false (.str t!"7") 7 = true ∧ idMatchesK true (.str t!"7") 7 = false := by decide

open Mcp.Escape in
example : clientDataLines (streamText [(⟨5, 1⟩, notifJson ⟨t!"m", ⟨[], []⟩⟩), (⟨5, 2⟩, answerJson 1 (.ok .null))])
    = [t!"{\"jsonrpc\":\"2.0\",\"method\":\"m\",\"params\":{}}", t!"{\"jsonrpc\":\"2.0\",\"id\":1,\"result\":null}"] := by
  decide

end Mcp.Props.C10
