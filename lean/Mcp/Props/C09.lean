/-
  C09 — One message per frame: SSE events and stdio lines never interleave.
-/
import Mcp.Model.Frames
import Mcp.Gen.Writers
namespace Mcp.Props.C09
open Mcp.Frames Mcp.Str

/-- Invariant of the locked discipline: the lock holder is inside a frame and nobody else is (`cur` is a function of
    `holder`); the stream is the completed frames followed by the part of the holder's frame written so far; frames
    complete in the order they started. -/
def Inv (s : St) : Prop :=
  match s.holder with
  | none => s.cur = (fun _ => none) ∧ s.out = s.done.flatten ∧ s.started = s.done
  | some t => ∃ rem acc, s.cur = upd (fun _ => none) t (some (rem, acc)) ∧ s.out = s.done.flatten ++ acc ∧
                s.started = s.done ++ [acc ++ rem.flatten]

theorem inv_init : Inv {} := ⟨rfl, rfl, rfl⟩

theorem inv_cur {s : St} (h : Inv s) {t : Nat} {rem : List Text} {acc : Text} (hc : s.cur t = some (rem, acc)) :
    s.holder = some t ∧ s.cur = upd (fun _ => none) t (some (rem, acc)) ∧ s.out = s.done.flatten ++ acc ∧
      s.started = s.done ++ [acc ++ rem.flatten] := by
  unfold Inv at h
  split at h
  · rw [h.1] at hc; cases hc
  · next t' hh =>
    obtain ⟨rem', acc', h1, h2, h3⟩ := h
    simp only [h1, upd] at hc
    split at hc
    · next ht => subst ht; cases hc; exact ⟨hh, h1, h2, h3⟩
    · cases hc

theorem inv_step (s s' : St) (e : Ev) (h : Inv s) (hs : step true s e = some s') : Inv s' := by
  cases e with
  | start t f =>
    simp only [step] at hs
    split at hs
    · cases hs
    · split at hs
      · cases hs
      · next hh =>
        cases hs
        have hn : s.holder = none := by simpa using hh
        simp only [Inv, hn] at h
        exact ⟨f, [], by simp [h.1], by simp [h.2.1], by simp [h.2.2]⟩
  | write t =>
    simp only [step] at hs
    split at hs
    · next c rest acc hc =>
      cases hs
      obtain ⟨hh, h1, h2, h3⟩ := inv_cur h hc
      simp only [Inv, hh]
      exact ⟨rest, acc ++ c, by rw [h1, upd_upd], by simp [h2], by simp [h3]⟩
    · cases hs
  | finish t =>
    simp only [step] at hs
    split at hs
    · next acc hc =>
      cases hs
      obtain ⟨hh, h1, h2, h3⟩ := inv_cur h hc
      refine ⟨?_, by simp [h2], by simpa using h3⟩
      rw [h1, upd_upd]; funext j; simp only [upd]; split <;> rfl
    · cases hs

theorem inv_run (evs : List Ev) : ∀ (s s' : St), Inv s → run true s evs = some s' → Inv s' := by
  induction evs with
  | nil => intro s s' h hr; cases hr; exact h
  | cons e es ih =>
    intro s s' h hr
    simp only [run] at hr
    split at hr
    · cases hr
    · next s1 hs1 => exact ih s1 s' (inv_step s s1 e h hs1) hr

/-- **Locked writers never interleave.** For every number of threads, every assignment of frames to threads, every
    chunking of every frame and every schedule allowed by the lock: once no frame is in progress the stream is exactly
    the concatenation of the frames that were written, each complete, in the order in which they were started. -/
theorem C09_locked_frames (evs : List Ev) (s : St) (hr : run true {} evs = some s) (hq : s.holder = none) :
    s.out = s.done.flatten ∧ s.done = s.started := by
  have := inv_run evs {} s inv_init hr
  simp only [Inv, hq] at this
  exact ⟨this.2.1, this.2.2.symm⟩

/-- While a frame is in progress the stream is the completed frames followed by a prefix of the holder's frame. -/
theorem C09_locked_prefix (evs : List Ev) (s : St) (hr : run true {} evs = some s) (t : Nat) (hq : s.holder = some t) :
    ∃ (rem : List Text) (acc : Text), s.out = s.done.flatten ++ acc ∧ s.started = s.done ++ [acc ++ rem.flatten] := by
  have := inv_run evs {} s inv_init hr
  simp only [Inv, hq] at this
  obtain ⟨rem, acc, _, h2, h3⟩ := this
  exact ⟨rem, acc, h2, h3⟩

/-- A writer whose frame is a single chunk needs no lock: `start; write; finish` of one thread is atomic w.r.t. the
    stream content — stated as: the unlocked system restricted to one-chunk frames keeps `out = done.flatten` whenever
    all threads are idle, and every completed frame is whole. We prove the per-frame fact used for it. -/
theorem C09_single_chunk (s : St) (t : Nat) (c : Text) (s1 s2 s3 : St)
    (h1 : step false s (.start t [c]) = some s1) (h2 : step false s1 (.write t) = some s2)
    (h3 : step false s2 (.finish t) = some s3) :
    s2.out = s.out ++ c ∧ s3.done = s.done ++ [c] := by
  simp only [step] at h1
  split at h1
  · simp at h1
  · simp only [Bool.false_and, Bool.false_eq_true, ite_false, Option.some.injEq] at h1
    subst h1
    simp only [step, upd_same, Option.some.injEq] at h2
    subst h2
    simp only [step, upd_same, Option.some.injEq] at h3
    subst h3
    simp

/-- Two unlocked writers whose frames are two chunks each (the stdio server before its repair: `Write(data)`,
    `Write("\n")`): the schedule a₁ b₁ a₂ b₂ merges the two messages into one line and emits an empty line. -/
theorem C09_unlocked_counterexample :
    let a := stdioChunks true t!"{\"id\":1}"
    let b := stdioChunks true t!"{\"id\":2}"
    ∃ s, run false {} [.start 0 a, .start 1 b, .write 0, .write 1, .write 0, .write 1, .finish 0, .finish 1] = some s ∧
      (lines s.out).1 = [t!"{\"id\":1}{\"id\":2}", []] := by
  refine ⟨_, rfl, ?_⟩
  decide

/-- …and the same schedule is simply not possible under the lock. -/
theorem C09_locked_excludes_it :
    run true {} [.start 0 (stdioChunks true t!"a"), .start 1 (stdioChunks true t!"b")] = none := by decide

/-! ### reading newline-terminated frames back -/

private theorem splitLF_acc (acc l : Text) (h : 10 ∉ l) (rest : Text) :
    splitLF acc (l ++ 10 :: rest) = ((acc ++ l) :: (splitLF [] rest).1, (splitLF [] rest).2) := by
  induction l generalizing acc with
  | nil => simp [splitLF]
  | cons c cs ih =>
    rw [List.mem_cons, not_or] at h
    simp only [List.cons_append, splitLF, Ne.symm h.1]
    rw [ih (acc ++ [c]) h.2]
    simp

/-- A standards-conforming line reader recovers exactly the messages that were framed, each on its own line, as long
    as no message contains a raw LF (which `encoding/json` guarantees: see C02's escaping theorem). -/
theorem C09_lines_roundtrip (msgs : List Text) (h : ∀ m ∈ msgs, 10 ∉ m) :
    lines ((msgs.map (· ++ [10])).flatten) = (msgs, []) := by
  induction msgs with
  | nil => rfl
  | cons m ms ih =>
    rw [List.forall_mem_cons] at h
    have ih := ih h.2
    simp only [lines] at ih ⊢
    simp only [List.map_cons, List.flatten_cons, List.append_assoc, List.singleton_append]
    rw [splitLF_acc [] m h.1]
    simp [ih]

/-- Put together: locked writers of newline-terminated JSON texts ⇒ the reader sees exactly the started messages. -/
theorem C09_stdio_reader (evs : List Ev) (s : St) (hr : run true {} evs = some s) (hq : s.holder = none)
    (msgs : List Text) (hs : s.started = msgs.map (· ++ [10])) (h : ∀ m ∈ msgs, 10 ∉ m) :
    lines s.out = (msgs, []) := by
  obtain ⟨h1, h2⟩ := C09_locked_frames evs s hr hq
  rw [h1, h2, hs]
  exact C09_lines_roundtrip msgs h

/-! ### the real writers (regenerated table) -/

/-- Every function of the library that writes frames to a stream shared between goroutines either holds a lock
    around the whole frame or emits the frame with a single `Write`. Complete regenerated table. -/
theorem C09_all_writers_framed : ∀ w ∈ Mcp.Gen.writers, Mcp.Gen.Writer.framed w = true := by decide

/-- T-gen: the stdio server writes the terminator of a frame UNCONDITIONALLY — both write calls of
    `stdioTransport.writeResponse` are statements of the function body itself, and one of them writes the LF. (A writer
    that cuts the frame into pieces and attaches the LF to the last piece `if len(data) > 0` keeps its two call sites
    under the mutex — the writer table above does not change — and loses the terminator for bodies of exactly k·64 KiB;
    the run-time side is the exact-size phase of the harness.) -/
theorem C09_stdio_terminator_unconditional :
    Mcp.Gen.stdioTerminatorUnconditional = true ∧ Mcp.Gen.stdioUnconditionalWrites = 2 := by decide

/-- The table covers exactly the writer functions we know about (a new writer cannot appear un-modelled). -/
theorem C09_writers_complete : Mcp.Gen.writers.map (·.fn) = Mcp.Gen.expectedWriters := rfl

/-- Every function that writes an event on a GET stream's connection is one of the two table entries that hold the
    connection's write lock (a new, un-modelled writer on that stream breaks this). -/
theorem C09_get_stream_writers_known :
    Mcp.Gen.getStreamWriteSites = ["httpServerHandler.SendRequest", "httpServerHandler.sendNotificationToGetSSE"] := rfl

-- non-vacuity: a legal locked schedule with two threads and multi-chunk frames
example : ∃ s, run true {} [.start 0 [t!"ab", t!"c\n"], .write 0, .write 0, .finish 0,
                            .start 1 [t!"x\n"], .write 1, .finish 1] = some s ∧
    s.holder = none ∧ s.out = t!"abc\nx\n" ∧ lines s.out = ([t!"abc", t!"x"], []) := by
  refine ⟨_, rfl, ?_⟩
  decide

end Mcp.Props.C09
