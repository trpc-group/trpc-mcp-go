/-
  C03 — Every emitted message is a well-formed JSON-RPC 2.0 / MCP message.

  Statement: every message a server writes — in an HTTP response body, an SSE event or a stdio line — in reaction to any input
  is one valid JSON-RPC 2.0 object of the MCP schema for its kind: a response has version "2.0", the request's id and
  exactly one of result / error, a result has the shape the protocol prescribes for the method, a notification has a method
  and no id. Faults are reported with the standard code of their class: unknown method −32601, parameters of the wrong shape
  or missing −32602, unparsable input −32700 or an HTTP 4xx, handler failure (an error, or a result that cannot be encoded)
  −32603 with the handler's message; an input the server does not serve is answered with a non-2xx status or a JSON-RPC error
  object, never with an empty or successful 2xx.

  The oracle is `Mcp.RpcSpec.wfMsg request? message`, written from the two specifications (it only looks members up in the
  emitted JSON; it shares nothing with the encoders). The model is `Mcp.Rpc` (see there). The harness feeds every captured
  frame to the very same `wfMsg`.

  History: on the tree first studied the statement failed in six ways — nil slices encoded as `null` (D07), embedded
  resources tagged "embedded_resource", results the encoder refuses answered by an empty 200 / nothing (D08), a wrong path
  answered by an implicit empty 200 (D09), an id without method / result / error accepted with an empty 202 (D10), stdio
  dropping unparsable / invalid lines in silence and error answers without an `id` member (D11). All were found by this
  check and repaired in the library (legacy SSE's part of D10 excepted, see below); the model is the repaired code and the
  theorems below are FULL statements: `C03_wf_streamable`, `C03_wf_sse`, `C03_wf_stdio` (every message of every reaction, for
  every configuration, registry, session table and input), `C03_codes_*`, `C03_never_silent_*`.

  What remains false, with its witness: the legacy SSE server writes 202 before it classifies and decodes the body, so an
  id without method / result / error, and a request its typed decoder rejects (a number no float64 can hold), are accepted
  with an empty 202 and nothing follows on the stream — `C03_never_silent_sse_partial` + `C03_never_silent_sse_counterexample`.
  Ids: a response carries the request's id as a NUMBER VALUE — exactly up to ±2^53; beyond, where the servers hold the id
  as a float64 and print that, as the double nearest to it, never with another sign or magnitude (`wfMsg` demands
  `nearestDouble`; `C03_ids_beyond_2_53`, `C03_id_edges_witness`).
-/
import Mcp.Lemmas.Rpc
import Mcp.Gen.RpcFacts
namespace Mcp.Props.C03
open Mcp.Str Mcp.Json Mcp.Content Mcp.RpcSpec Mcp.Rpc Mcp.Session

/-! ## well-formedness -/

/-- Streamable HTTP — every mode, every verb, path, session reference, Accept header, body: every JSON-RPC message in the
    answer is well-formed with respect to the request (HTTP-level refusals carry no JSON-RPC message). -/
theorem C03_wf_streamable (c : SCfg) (reg : Registry) (st : St) (i : HttpIn) (hreg : reg.Conforming) :
    ∀ m ∈ (serveStreamable c reg st i).2.messages, wfMsg i.body.json? m = true :=
  (serveStreamable_emits c reg st i).wf hreg

/-- legacy SSE — every verb, path, session parameter, body: HTTP body and stream frames. -/
theorem C03_wf_sse (reg : Registry) (i : SseIn) (hreg : reg.Conforming) :
    ∀ m ∈ (serveSSE reg i).messages, wfMsg i.body.json? m = true :=
  (serveSSE_emits reg i).wf hreg

/-- stdio — every line. -/
theorem C03_wf_stdio (reg : Registry) (b : Body) (hreg : reg.Conforming) :
    ∀ m ∈ (serveStdio reg b).messages, wfMsg b.json? m = true :=
  (serveStdio_emits reg b).wf hreg

/-- …and what comes out of the dispatchers has the result shape of the method whatever the request looked like. -/
theorem C03_result_shapes (reg : Registry) (hreg : reg.Conforming) (req : Req) (r : Json) :
    (dispatch reg req = .ok (.result r) → wfResult req.method r = true) ∧
    (dispatchStdio reg req = .ok (.result r) → wfResult req.method r = true) :=
  ⟨dispatch_result_wf reg hreg req r, dispatchStdio_result_wf reg hreg req r⟩

/-- Every content item the encoder writes — text, image, audio, embedded resource, with or without annotations — and every
    resource contents item is one of the MCP schema (embedded resources carry the tag "resource"). -/
theorem C03_content_items (c : Content) (rc : ResourceContents) :
    wfContent (encodeContent c) = true ∧ wfResourceContents (encodeResourceContents rc) = true :=
  ⟨wf_content c, wf_resourceContents rc⟩

/-- List filters (`WithToolListFilter`, `WithPromptListFilter`, `WithResourceListFilter`, their legacy-SSE counterparts) are
    ARBITRARY functions here — keyed on whatever the request context carries, returning nil or empty slices, hiding
    everything or something: the three list results are well-formed for every one of them (tools: provided the descriptors
    that come back carry an object schema, `Conforming.listed`), the list member is an ARRAY (never `null`), and all three
    servers emit well-formed messages (`C03_wf_*` quantify over these registries too). -/
theorem C03_filtered_lists (reg : Registry) (hreg : reg.Conforming) :
    (∃ xs, handleListTools reg = .result (.obj [(t!"tools", .arr xs)]) ∧ wfResult t!"tools/list" (.obj [(t!"tools", .arr xs)]) = true) ∧
    (∃ xs, handleListPrompts reg = .result (.obj [(t!"prompts", .arr xs)]) ∧ wfResult t!"prompts/list" (.obj [(t!"prompts", .arr xs)]) = true) ∧
    (∃ xs, handleListResources reg = .result (.obj [(t!"resources", .arr xs)]) ∧
      wfResult t!"resources/list" (.obj [(t!"resources", .arr xs)]) = true) :=
  ⟨⟨_, rfl, wf_listTools _ hreg.listed⟩, ⟨_, rfl, wf_listPrompts _⟩, ⟨_, rfl, wf_listResources _⟩⟩

/-- `Conforming.listed` holds for every filter that selects among the registered descriptors (any sublist, in any order,
    with repetitions): what such a filter returns already satisfies `Conforming.schema`. -/
theorem C03_selecting_filters_conform (reg : Registry)
    (hs : ∀ t ∈ reg.tools, ∃ s, t.desc.inputSchema = some (.obj s) ∧ lookup s t!"type" = some (.str t!"object"))
    (hsel : ∀ d ∈ reg.toolFilter (reg.tools.map (·.desc)), d ∈ reg.tools.map (·.desc)) :
    ∀ d ∈ reg.toolFilter (reg.tools.map (·.desc)), ∃ s, d.inputSchema = some (.obj s) ∧ lookup s t!"type" = some (.str t!"object") := by
  intro d hd
  obtain ⟨t, ht, rfl⟩ := List.mem_map.mp (hsel d hd)
  exact hs t ht

/-- A filter that hides everything — returning a nil slice or an empty one is the same `[]` here — on all three servers:
    `"tools": []`, `"prompts": []`, `"resources": []`, well-formed, with a result. -/
theorem C03_hide_all_filters_witness :
    let reg : Registry := { demoReg with toolFilter := fun _ => [], promptFilter := fun _ => [], resourceFilter := fun _ => [] }
    ([t!"tools/list", t!"prompts/list", t!"resources/list"].all fun m =>
      let j := demoEnv (.int 1) m none
      (serveStreamable (demoCfg .stateless) reg {} (postOf .none false j)).2.messages.all (wfMsg (some j)) &&
      (serveStreamable (demoCfg .stateless) reg {} (postOf .none false j)).2.hasResult &&
      (serveSSE reg (ssePostOf j)).messages.all (wfMsg (some j)) && (serveSSE reg (ssePostOf j)).hasResult &&
      (serveStdio reg (.json j)).messages.all (wfMsg (some j)) && (serveStdio reg (.json j)).hasResult) = true ∧
    (match handleListTools reg with | .result (.obj [(k, .arr [])]) => k == t!"tools" | _ => false) = true ∧
    (match handleListPrompts reg with | .result (.obj [(k, .arr [])]) => k == t!"prompts" | _ => false) = true ∧
    (match handleListResources reg with | .result (.obj [(k, .arr [])]) => k == t!"resources" | _ => false) = true := by
  decide +kernel

/-- D07 repaired: a handler that returns a nil slice is answered with an empty array (all three servers). -/
theorem C03_nil_slices_are_arrays :
    let j := demoEnv (.int 1) t!"tools/call" (some (callParams t!"nilcontent"))
    ((serveStreamable (demoCfg .stateless) demoReg {} (postOf .none false j)).2.messages.all (wfMsg (some j))) = true ∧
    ((serveSSE demoReg (ssePostOf j)).messages.all (wfMsg (some j))) = true ∧
    ((serveStdio demoReg (.json j)).messages.all (wfMsg (some j))) = true ∧
    (serveStdio demoReg (.json j)).hasResult = true ∧
    (runResource ⟨[], t!"u", [], [], 0, fun _ => .contents none⟩ none).code? = none := by
  decide +kernel

/-- D11 repaired: where no id can be read the error answer carries `"id": null` — legacy SSE (unparsable body, unreadable
    envelope, neither id nor method) and stdio (unparsable line, invalid envelope, typed decode failure). -/
theorem C03_unidentified_errors_carry_null_id :
    ((serveSSE demoReg ⟨.post, .message, .live, .parseFail⟩).messages.all (wfMsg none)) = true ∧
    (serveSSE demoReg ⟨.post, .message, .live, .parseFail⟩).errorCode = some (-32700) ∧
    ((serveSSE demoReg (ssePostOf (.obj []))).messages.all (wfMsg (some (.obj [])))) = true ∧
    ((serveStdio demoReg .parseFail).messages.all (wfMsg none)) = true ∧
    (let j : Json := .obj [(t!"jsonrpc", .str t!"2.0"), (t!"id", .int 1), (t!"method", .int 5)]
     ((serveStdio demoReg (.json j)).messages.all (wfMsg (some j))) = true ∧ (serveStdio demoReg (.json j)).errorCode = some (-32700)) := by
  decide +kernel

/-- Ids beyond ±2^53. A numeric id is decoded into a double and printed back, so what comes back is the NUMBER VALUE: for
    every integer id below the float64 overflow all three servers answer with the double nearest to it — `nearestDouble`,
    which is what `wfMsg` demands (`C03_wf_*` hold for these ids too) and is the model's `f64RoundInt`; it differs from the
    id by at most half a unit in the last place a double keeps (2^(⌊log₂|id|⌋ − 52)); up to ±2^53 it is the id itself.
    Never another sign, never another magnitude. -/
theorem C03_ids_beyond_2_53 (i : Int) :
    nearestDouble i = f64RoundInt i ∧ (i.natAbs ≤ 9007199254740992 → nearestDouble i = i) ∧
    2 * (nearestDouble i - i).natAbs ≤ 2 ^ (Nat.log2 i.natAbs - 52) ∧
    (0 < i → 0 < nearestDouble i) ∧ (i < 0 → nearestDouble i < 0) :=
  have ⟨hclose, hpos, hneg⟩ := nearestDouble_close i
  ⟨nearestDouble_eq i, fun h => (nearestDouble_eq i).trans (f64RoundInt_exact i h), hclose, hpos, hneg⟩

/-- …at the edges: 2^53 + 1 comes back as 2^53; 2^63 − 1 and 2^63 + 1 as 2^63 (in any decimal rendering of that double, Go's shortest one 9223372036854776000
    included; POSITIVE — an answer bearing −2^63, or the next double, is not well-formed), −2^63 − 1 as −2^63, 2^64 − 1 as 2^64, 10^30 as the double nearest to it; on all three servers, with a result. -/
theorem C03_id_edges_witness :
    let echo (i : Int) : Bool :=
      let j := demoEnv (.int i) t!"ping" none
      (serveStreamable (demoCfg .stateless) demoReg {} (postOf .none false j)).2.messages.all (wfMsg (some j)) &&
      (serveStreamable (demoCfg .stateless) demoReg {} (postOf .none false j)).2.hasResult &&
      (serveSSE demoReg (ssePostOf j)).messages.all (wfMsg (some j)) && (serveSSE demoReg (ssePostOf j)).hasResult &&
      (serveStdio demoReg (.json j)).messages.all (wfMsg (some j)) && (serveStdio demoReg (.json j)).hasResult
    [9007199254740993, -9007199254740993, 9223372036854775807, 9223372036854775808, 9223372036854775809, -9223372036854775808,
      -9223372036854775809, 18446744073709551615, 18446744073709551616, 10 ^ 19, 10 ^ 30].all echo = true ∧
    nearestDouble 9007199254740993 = 9007199254740992 ∧ nearestDouble 9223372036854775807 = 9223372036854775808 ∧
    nearestDouble (-9223372036854775809) = -9223372036854775808 ∧ nearestDouble 18446744073709551615 = 18446744073709551616 ∧
    (let j := demoEnv (.int 9223372036854775807) t!"ping" none
     wfMsg (some j) (okMsg (some (.int 9223372036854775808)) (.obj [])) = true ∧
     wfMsg (some j) (okMsg (some (.int 9223372036854776000)) (.obj [])) = true ∧
     wfMsg (some j) (okMsg (some (.int (-9223372036854775808))) (.obj [])) = false ∧
     wfMsg (some j) (okMsg (some (.int 9223372036854777856)) (.obj [])) = false) ∧
    (let j := demoEnv (.int 5) t!"ping" none
     wfMsg (some j) (okMsg (some (.int 6)) (.obj [])) = false ∧ wfMsg (some j) (okMsg (some (.int 5)) (.obj [])) = true) ∧
    wfEnvelope (demoEnv (.int 9007199254740993) t!"ping" none) = false ∧ wfEnvelope (demoEnv (.int 9007199254740992) t!"ping" none) = true := by
  decide +kernel

/-! ## codes -/

/-- unknown method → −32601, from the table and from the switch, whatever the parameters -/
theorem C03_codes_unknown_method (reg : Registry) (req : Req) :
    (req.method ∉ tableMethods → (dispatch reg req).ans?.bind Ans.code? = some (-32601)) ∧
    (req.method ∉ stdioMethods → (dispatchStdio reg req).ans?.bind Ans.code? = some (-32601)) := by
  constructor
  · intro h; rw [dispatch_unknown reg req h]; rfl
  · intro h; rw [dispatchStdio_unknown reg req h]; rfl

/-- missing or wrongly shaped REQUIRED parameters → −32602, from the table and from the switch: for every registry and every
    decoded request (any JSON value, or none, as `params`). -/
theorem C03_codes_bad_params (reg : Registry) (req : Req) (h : badParams reg req.method req.params = true) :
    (dispatch reg req).ans?.bind Ans.code? = some (-32602) ∧ (dispatchStdio reg req).ans?.bind Ans.code? = some (-32602) := by
  obtain ⟨id, m, p⟩ := req
  -- for each of the four methods both dispatchers evaluate to the manager's answer
  rcases badParams_method h with rfl | rfl | rfl | rfl
  · exact ⟨handleInitialize_bad reg _ h, handleInitialize_bad reg _ h⟩
  · exact ⟨handleCallTool_bad reg _ h, handleCallTool_bad reg _ h⟩
  · exact ⟨handleGetPrompt_bad reg _ h, handleGetPrompt_bad reg _ h⟩
  · exact ⟨handleReadResource_bad reg _ h, handleReadResource_bad reg _ h⟩

/-- handler failure → −32603 and the handler's text is inside the message (tools: after the "tool execution failed" prefix) -/
theorem C03_codes_handler_error_tool (tool : ToolEntry) (a : Option Obj) (msg : Text) (h : tool.run a = .goErr msg) :
    (runTool tool a).code? = some (-32603) ∧ ∃ t, (runTool tool a).text? = some t ∧ Mcp.Str.contains t msg = true := by
  unfold runTool
  rw [h]
  exact ⟨rfl, _, rfl, contains_iff.mpr (List.suffix_append _ _).isInfix⟩

theorem C03_codes_handler_error_prompt (p : PromptEntry) (a : List (Text × Text)) (msg : Text) (h : p.run a = .goErr msg) :
    (runPrompt p a).code? = some (-32603) ∧ ∃ t, (runPrompt p a).text? = some t ∧ Mcp.Str.contains t msg = true := by
  unfold runPrompt
  rw [h]
  exact ⟨rfl, _, rfl, contains_iff.mpr List.infix_rfl⟩

theorem C03_codes_handler_error_resource (r : ResEntry) (a : Option Obj) (msg : Text) (h : r.run a = .goErr msg) :
    (runResource r a).code? = some (-32603) ∧ ∃ t, (runResource r a).text? = some t ∧ Mcp.Str.contains t msg = true := by
  unfold runResource
  rw [h]
  exact ⟨rfl, _, rfl, contains_iff.mpr List.infix_rfl⟩

/-- D08 repaired: a result the encoder refuses becomes — for every id and every encoder text — a −32603 error for the same
    id that carries the encoder's text; on all three servers (demo: a channel inside structured content). -/
theorem C03_codes_unencodable (id : Option Json) (why : Text) :
    ansMsg id (.unencodable why) = some (errMsg id (-32603) why) ∧
    (let j := demoEnv (.int 1) t!"tools/call" (some (callParams t!"chan"))
     (serveStreamable (demoCfg .stateless) demoReg {} (postOf .none false j)).2.errorCode = some (-32603) ∧
     (serveSSE demoReg (ssePostOf j)).errorCode = some (-32603) ∧ (serveStdio demoReg (.json j)).errorCode = some (-32603) ∧
     ((serveStdio demoReg (.json j)).messages.all (wfMsg (some j))) = true) :=
  ⟨rfl, by decide +kernel⟩

/-- unparsable input: HTTP 400 on Streamable (any mode / session), a −32700 error object on legacy SSE and on stdio; a JSON
    value that is no JSON-RPC message at all is −32600 on stdio -/
theorem C03_codes_unparsable (c : SCfg) (reg : Registry) (st : St) (ref : Ref) (acc : Bool) :
    (serveStreamable c reg st ⟨.post, true, ref, acc, .parseFail⟩).2.status = some 400 ∧
    (serveSSE reg ⟨.post, .message, .live, .parseFail⟩).errorCode = some (-32700) ∧
    (serveStdio reg .parseFail).errorCode = some (-32700) ∧
    (∀ j, classifyStdio j = none → (serveStdio reg (.json j)).errorCode = some (-32600)) := by
  refine ⟨rfl, rfl, rfl, fun j hj => ?_⟩
  simp only [serveStdio, hj]
  rfl

private theorem error_of_code {a : Ans} {c : Int} (h : a.code? = some c) : ∃ msg, a = .error c msg := by
  cases a with
  | error c' msg => exact ⟨msg, congrArg (Ans.error · msg) (Option.some.inj h)⟩
  | _ => cases h

/-- End to end, all three servers: for a well-formed envelope in an accepted session the code the dispatcher chose is the
    code on the wire — so unknown methods are answered −32601 and bad parameters −32602 by Streamable HTTP (every mode),
    legacy SSE and stdio. -/
theorem C03_codes_served (reg : Registry) (o mm : Obj) (hwf : wfEnvelope (.obj o) = true) (hrep : goDecodeFields o = some mm)
    (m : Text) (hm : lookup o t!"method" = some (.str m)) (hne : m ≠ [])
    (c : SCfg) (st : St) (ref : Ref) (acc : Bool) (hs : sessionOk c st ref m) :
    (m ∉ tableMethods →
      (serveStreamable c reg st (postOf ref acc (.obj o))).2.errorCode = some (-32601) ∧
      (serveSSE reg (ssePostOf (.obj o))).errorCode = some (-32601) ∧ (serveStdio reg (.json (.obj o))).errorCode = some (-32601)) ∧
    (badParams reg m (paramsOf mm) = true →
      (serveStreamable c reg st (postOf ref acc (.obj o))).2.errorCode = some (-32602) ∧
      (serveSSE reg (ssePostOf (.obj o))).errorCode = some (-32602) ∧ (serveStdio reg (.json (.obj o))).errorCode = some (-32602)) := by
  obtain ⟨-, id', a, a', -, -, h⟩ := serve_wfEnvelope reg o mm hwf hrep m hm hne c st ref acc hs
  rw [h.streamable, h.sse, h.stdio]
  constructor
  · intro hu
    cases (dispatch_unknown reg _ hu).symm.trans h.table
    cases (dispatchStdio_unknown reg _ (fun hmem => hu (stdioMethods_sub_table m hmem))).symm.trans h.switch
    exact ⟨rfl, rfl, rfl⟩
  · intro hb
    obtain ⟨b1, b2⟩ := C03_codes_bad_params reg ⟨some id', m, paramsOf mm⟩ hb
    rw [h.table] at b1
    rw [h.switch] at b2
    obtain ⟨msg, rfl⟩ := error_of_code b1
    obtain ⟨msg', rfl⟩ := error_of_code b2
    exact ⟨rfl, rfl, rfl⟩

/-- T-gen: the code literal of every error answer built on the request path is the one the model uses in that branch. -/
theorem C03_codes_fact : Mcp.Gen.rpcErrorCodes = modelledErrorCodes := by decide

/-! ## never silent -/

/-- Streamable HTTP: a wrong path gets 404 (D09 repaired), an unknown verb 405, a body that is not a JSON-RPC message an HTTP
    error status, and so does an id with neither method nor result nor error (D10 repaired) — every mode, session reference,
    Accept header. -/
theorem C03_never_silent_streamable (c : SCfg) (reg : Registry) (st : St) (v : Verb) (ref : Ref) (acc : Bool) (b : Body) :
    (serveStreamable c reg st ⟨v, false, ref, acc, b⟩).2.status = some 404 ∧
    (serveStreamable c reg st ⟨.other, true, ref, acc, b⟩).2.status = some 405 ∧
    (Malformed b → (serveStreamable c reg st ⟨.post, true, ref, acc, b⟩).2.answeredWithError = true) ∧
    (∀ j base, b = .json j → decodeBase j = some base → base.id.isSome = true → base.method = [] →
      decodeResponse j = some (false, false) → (serveStreamable c reg st ⟨.post, true, ref, acc, b⟩).2.answeredWithError = true) := by
  refine ⟨rfl, rfl, fun h => ?_, fun j base hb hbase hid hm hr => ?_⟩
  · cases h with
    | unparsable => rfl
    | undecodable j hj =>
      show (servePost c reg st ref j).2.answeredWithError = true
      simp only [servePost, hj]
      rfl
    | empty j base hj hid hm =>
      show (servePost c reg st ref j).2.answeredWithError = true
      simp only [servePost, hj, hid, hm]
      split
      · exact answeredWithError_http.mpr (resolve_error ‹_›)
      · rfl
  · subst hb
    show (servePost c reg st ref j).2.answeredWithError = true
    simp only [servePost, hbase, hid, hm]
    split
    · exact answeredWithError_http.mpr (resolve_error ‹_›)
    · next sess _ =>
      simp only [hr]
      cases sess <;> rfl

/-- legacy SSE, message endpoint: a body that is not a JSON-RPC message gets an HTTP error status or a JSON-RPC error object;
    every other path gets 404. -/
theorem C03_never_silent_sse_partial (reg : Registry) (verb : Verb) (ref : SseRef) (b : Body) :
    (Malformed b → (serveSSE reg ⟨verb, .message, ref, b⟩).answeredWithError = true) ∧
    (serveSSE reg ⟨verb, .other, ref, b⟩).status = some 404 := by
  refine ⟨fun h => ?_, rfl⟩
  unfold serveSSE
  by_cases hv : verb = .post
  · subst hv
    cases ref with
    | live =>
      cases h with
      | unparsable => rfl
      | undecodable j hj =>
        simp only [serveSSEMessage, hj]
        rfl
      | empty j bb hj hid hm =>
        simp only [serveSSEMessage, hj, hid, hm]
        rfl
    | _ => rfl
  · rw [if_pos hv]
    rfl

/-- What legacy SSE still leaves without an answer (it writes 202 before it classifies and decodes the body): an id without
    method / result / error, and a request whose typed decode fails — where Streamable answers 400 to both. -/
theorem C03_never_silent_sse_counterexample :
    let idOnly : Json := .obj [(t!"jsonrpc", .str t!"2.0"), (t!"id", .int 5)]
    let huge := demoEnv (.int 1) t!"ping" (some (.obj [(t!"x", .int (10 ^ 400))]))
    (serveSSE demoReg (ssePostOf idOnly)).status = some 202 ∧ (serveSSE demoReg (ssePostOf idOnly)).messages.length = 0 ∧
    (serveSSE demoReg (ssePostOf huge)).status = some 202 ∧ (serveSSE demoReg (ssePostOf huge)).messages.length = 0 ∧
    (serveStreamable (demoCfg .stateful) demoReg demoSt (postOf (.sid 0) false idOnly)).2.status = some 400 ∧
    (serveStreamable (demoCfg .stateful) demoReg demoSt (postOf (.sid 0) false huge)).2.status = some 400 := by
  decide +kernel

/-- stdio (D11 repaired): a line that is not JSON, or not a JSON-RPC message, or a request that does not decode, is answered
    with a JSON-RPC error. -/
theorem C03_never_silent_stdio (reg : Registry) (b : Body) :
    (MalformedLine b → (serveStdio reg b).answeredWithError = true) ∧
    (∀ j, b = .json j → classifyStdio j = some .request → decodeRequest j = none → (serveStdio reg b).answeredWithError = true) := by
  refine ⟨fun h => ?_, fun j hb hc hd => ?_⟩
  · cases h with
    | unparsable => rfl
    | invalid j hj =>
      simp only [serveStdio, hj]
      rfl
  · simp only [hb, serveStdio, hc, hd]
    rfl

/-- A request with a well-formed envelope in an accepted session always gets exactly one message back, on every server —
    whatever the handler does (result, error, a result that cannot be encoded). -/
theorem C03_request_answered (reg : Registry) (o mm : Obj) (hwf : wfEnvelope (.obj o) = true) (hrep : goDecodeFields o = some mm)
    (m : Text) (hm : lookup o t!"method" = some (.str m)) (hne : m ≠ [])
    (c : SCfg) (st : St) (ref : Ref) (acc : Bool) (hs : sessionOk c st ref m) :
    (serveStreamable c reg st (postOf ref acc (.obj o))).2.messages.length = 1 ∧
    (serveSSE reg (ssePostOf (.obj o))).messages.length = 1 ∧ (serveStdio reg (.json (.obj o))).messages.length = 1 := by
  obtain ⟨-, id', a, a', -, -, h⟩ := serve_wfEnvelope reg o mm hwf hrep m hm hne c st ref acc hs
  rw [h.streamable, h.sse, h.stdio]
  -- `ansMsg` renders every kind of answer (result, error, unencodable) as one message
  cases a <;> cases a' <;> exact ⟨rfl, rfl, rfl⟩

/-! ## non-vacuity -/

/-- a call goes through all three servers with a well-formed answer; an embedded resource and a handler error too -/
example :
    let j := demoEnv (.str t!"a") t!"tools/call" (some (callParams t!"echo"))
    let e := demoEnv (.int 3) t!"tools/call" (some (callParams t!"embedded"))
    ((serveStreamable (demoCfg .stateful true) demoReg demoSt (postOf (.sid 0) true j)).2.messages.all (wfMsg (some j))) = true ∧
    (serveStreamable (demoCfg .stateful true) demoReg demoSt (postOf (.sid 0) true j)).2.hasResult = true ∧
    ((serveSSE demoReg (ssePostOf j)).messages.all (wfMsg (some j))) = true ∧ ((serveStdio demoReg (.json j)).messages.all (wfMsg (some j))) = true ∧
    ((serveStdio demoReg (.json e)).messages.all (wfMsg (some e))) = true ∧ (serveStdio demoReg (.json e)).hasResult = true ∧
    (serveStdio demoReg (.json (demoEnv (.int 2) t!"tools/call" (some (callParams t!"boom"))))).errorCode = some (-32603) := by
  decide +kernel

/-- the demo registry — nil-slice, embedded-resource and unencodable handlers included — satisfies `Conforming` -/
example : Registry.Conforming demoReg := by
  refine ⟨?schema, C03_selecting_filters_conform demoReg ?schema fun _ h => h, ?_⟩
  · intro t ht
    simp [demoReg] at ht
    rcases ht with rfl | rfl | rfl | rfl | rfl <;> exact ⟨_, rfl, rfl⟩
  · intro p hp a r hr
    simp [demoReg] at hp; subst hp
    simp [demoPrompt] at hr; subst hr
    intro m hm
    simp at hm; subst hm
    exact ⟨by decide, _, rfl⟩

/-- `badParams` is not vacuous: each of the four methods has parameters it rejects and parameters it accepts -/
example :
    badParams demoReg t!"tools/call" (some (.obj [(t!"name", .int 5)])) = true ∧
    badParams demoReg t!"tools/call" (some (.obj [(t!"name", .str t!"echo"), (t!"arguments", .arr [])])) = true ∧
    badParams demoReg t!"tools/call" (some (callParams t!"echo")) = false ∧
    badParams demoReg t!"prompts/get" none = true ∧ badParams demoReg t!"prompts/get" (some (.obj [(t!"name", .str t!"p")])) = false ∧
    badParams demoReg t!"resources/read" (some (.obj [(t!"uri", .null)])) = true ∧
    badParams demoReg t!"initialize" (some (.obj [(t!"protocolVersion", .str t!"2025-03-26")])) = false ∧
    badParams demoReg t!"initialize" (some (.str t!"x")) = true ∧ badParams demoReg t!"ping" none = false := by
  decide +kernel

end Mcp.Props.C03
