/-
  C08 — Every client call ends when its connection or context ends; nothing leaks.  (PARTIAL by design: the logic of the
  waits, the pending tables, the channel / body / process ownership is modelled and proved here for every schedule; the
  runtime part — scheduling latency, kernel/TCP behaviour, Go runtime internals — is covered by fault enumeration in
  harness/cmd/calls.)

  Model: `Mcp.Model.Calls` (a family indexed by facts regenerated into `Mcp.Gen.CallFacts`).
  Theorems: `C08_no_wrong_result`, `C08_no_partial_frame`, `C08_returns`, `C08_pending_empty`,
  `C08_ledger_zero_after_close` for the good region, which today's facts of all four transports are in (instance
  theorems `C08_facts_*`, decided on the regenerated tables); `…_partial` theorems for any facts and `…_witness`
  schedules over explicit bad facts for every region the tree has been in (stdio: two closers of a pending channel,
  unchecked receive, two `Cmd.Wait` sites; Streamable: `handleSSEResponse` not closing the body, the listening
  stream's asynchronous start ignoring Close — all repaired in /repo).
  Handshake: `C08_close_takes_effect` (Close() runs whatever the client's state — fact `closeAny`, instance
  `C08_close_unguarded`) with the witnesses `C08_close_skipped_witness`, `C08_close_during_handshake_witness`; the legacy
  SSE client's `start` stage (`C08_sse_start_bounded`, folded into `selCtx` / `selClosed` of `factsOf … .sse`) with
  `C08_detached_wait_witness`, `C08_wait_without_close_case_witness`.
  Retrying clients: the back-off is part of the call's wait (`C08_backoff_selects_ctx`, folded into `selCtx`;
  `C08_backoff_sleep_witness`).  Requests of the server on the client side: the answer POST is a ledger resource
  (`St.answerPost`, fact `answerBound`, `C08_answer_posts_bound`, `C08_answer_post_outlives_close_witness`).
  Independence of calls: `C08_calls_independent` (fact `lockFree`, instance `C08_no_lock_across_reads`) with
  `C08_lock_across_read_witness`.
  Server-issued requests: `C08_server_pending_released` (instance `C08_server_inserts_deferred`) with
  `C08_server_pending_leak_witness`.
  Single regenerated facts: `C08_inserts_deferred`, `C08_bodies_closed`, `C08_selects_current`, and on the Streamable
  server `C08_get_exit_deadline_before_lock`.
-/
import Mcp.Model.Calls
import Mcp.Gen.CallFacts
namespace Mcp.Props.C08
open Mcp.Calls

private theorem run_induct (f : Facts) (cfg : Cfg) (P : St → Prop)
    (hstep : ∀ s s' e, P s → step f cfg s e = some s' → P s') :
    ∀ (evs : List Ev) (s s' : St), P s → run f cfg s evs = some s' → P s' := by
  intro evs
  induction evs with
  | nil => intro s s' h hr; exact Option.some.inj hr ▸ h
  | cons e es ih =>
    intro s s' h hr
    simp only [run] at hr
    split at hr
    · cases hr
    · next s1 hs1 => exact ih s1 s' (hstep s s1 e h hs1) hr

private theorem run_append (f : Facts) (cfg : Cfg) (es es' : List Ev) :
    ∀ s, run f cfg s (es ++ es') = (run f cfg s es).bind (run f cfg · es') := by
  induction es with
  | nil => intro s; rfl
  | cons e es ih => intro s; simp only [List.cons_append, run]; split <;> simp [ih]

private theorem closeChans_eq (cl : Call) :
    closeChans cl = { cl with chClosed := cl.chClosed || cl.inTable, inTable := false } := by
  cases cl; unfold closeChans; split <;> simp_all

/-- One event: split `step`, substitute the successor state, unfold the per-call update. -/
macro "step_cases " hs:ident : tactic => `(tactic| (
  cases ‹Ev› <;> simp only [step] at $hs:ident
  all_goals (repeat' split at $hs:ident)
  all_goals (first | (simp at $hs:ident; done) | (simp only [Option.some.injEq] at $hs:ident; subst $hs:ident))
  all_goals (try simp only [setCall])))

/-! ## What an event does to a call -/

/-- What close() does to every record when it sets `closed` (nothing on the HTTP transports: no pending channels). -/
def sweepCall (cfg : Cfg) (cl : Call) : Call := if cfg.t.shared then closeChans cl else cl

/-- `CallUpd f cfg s cl b cl'`: an event enabled in `s` can turn the record `cl` of a call into `cl'`, and `b` is the
    `closed` flag afterwards.  Every event touches the record of the call it names in one of these ways and leaves the
    others alone (`same`); only the event that sets `closed` touches them all (`step_calls`):

      issue c          `refuse` (close() has begun on a shared stream) or `issue`
      headers c ok     `headers ok`
      deliver c        `slot`; `same` on a shared stream when `c` is no longer registered
      bodyEnd c        `ended`
      connErr c        `connErr`
      ctxDone c        `ctxDone`
      timeout c        `timedOut`
      complete c k     `complete k`
      closeEnd         `sweep`, every call
      readerExit       `sweep`, every call, where it closes the transport (legacy SSE with `endCloses`); else `same`
      any other event  `same` (the wire, the other library goroutines, closeBegin, the starter, handlerOp, the answer POST) -/
inductive CallUpd (f : Facts) (cfg : Cfg) (s : St) (cl : Call) : Bool → Call → Prop
  | same : CallUpd f cfg s cl s.closed cl
  | refuse : cl.issued = false → CallUpd f cfg s cl s.closed { cl with issued := true, returned := some .err }
  | issue : cl.issued = false → (s.closing && cfg.t.shared) = false →
      CallUpd f cfg s cl s.closed { cl with issued := true, inTable := f.hasTable }
  | headers (ok : Bool) : cfg.t.http = true → waiting cl = true →
      CallUpd f cfg s cl s.closed { cl with body := true, refused := !ok, connErr := !ok }
  | slot : CallUpd f cfg s cl s.closed { cl with slot := true }
  | ended : CallUpd f cfg s cl s.closed { cl with ended := true }
  | connErr : CallUpd f cfg s cl s.closed { cl with connErr := true }
  | ctxDone : CallUpd f cfg s cl s.closed { cl with ctxDone := true, body := cl.body && cl.returned.isNone }
  | timedOut : CallUpd f cfg s cl s.closed { cl with timedOut := true }
  | complete (k : Case) : waiting cl = true → ready f cfg s cl k = true →
      CallUpd f cfg s cl s.closed { cl with returned := some (result f cl k),
                                            inTable := cl.inTable && !(f.deleteDeferred || k = .answer),
                                            body := relBody f cfg cl k }
  | sweep : CallUpd f cfg s cl true (sweepCall cfg cl)

theorem step_calls {f : Facts} {cfg : Cfg} {s s' : St} {e : Ev} (hs : step f cfg s e = some s') (d : Nat) :
    CallUpd f cfg s (s.calls d) s'.closed (s'.calls d) := by
  step_cases hs
  all_goals (try split)   -- `d` is the call the event names, or another one
  all_goals (try subst_vars)
  -- the shape of the new record determines the constructor; its guards are among those of `step`
  all_goals (try (constructor <;> simp_all; done))
  -- left: `readerExit` closing the transport, `closeEnd`
  all_goals (have := @CallUpd.sweep f cfg s (s.calls d); simp_all [sweepCall, Transport.shared])

/-! ## Invariants -/

private theorem waiting_iff (cl : Call) : waiting cl = true ↔ cl.issued = true ∧ cl.returned = none := by
  simp [waiting]

private theorem result_sound {f : Facts} {cfg : Cfg} {s : St} {cl : Call} {k : Case} (hk : ready f cfg s cl k = true) :
    (result f cl k = .ok ∧ cl.slot = true) ∨ result f cl k = .err ∨
      (cl.chClosed = true ∧ (f.oneCloser = false ∨ f.recvOk = false)) := by
  unfold result
  split
  · simp_all
  · cases k <;> simp_all [ready]

private theorem relBody_false {f : Facts} {cfg : Cfg} {cl : Call} {k : Case} (h : f.bodyClosed = true ∨ cl.body = false) :
    relBody f cfg cl k = false := by
  cases k <;> rcases h with h | h <;> simp [relBody, h]

/-- What holds of the record of each call in every reachable state, whatever the facts (`closed` is the state's flag). -/
structure CallInv (f : Facts) (cfg : Cfg) (closed : Bool) (cl : Call) : Prop where
  fresh : cl.issued = false → cl.returned = none ∧ cl.body = false
  table : f.deleteDeferred = true → cl.inTable = true → cl.issued = true ∧ cl.returned = none
  res : ∀ r, cl.returned = some r → (r = .ok ∧ cl.slot = true) ∨ r = .err ∨
    (cl.chClosed = true ∧ (f.oneCloser = false ∨ f.recvOk = false))
  body : f.bodyClosed = true → cl.returned ≠ none → cl.body = false
  noBody : cfg.t.http = false → cl.body = false
  chan : f.hasTable = true → cfg.t.shared = true → waiting cl = true → cl.inTable = true ∨ cl.chClosed = true
  swept : cfg.t.shared = true → closed = true → cl.inTable = false

private theorem CallInv.upd {f : Facts} {cfg : Cfg} {s : St} {cl cl' : Call} {b : Bool} (h : CallInv f cfg s.closed cl)
    (hc : s.closed = true → s.closing = true) (u : CallUpd f cfg s cl b cl') : CallInv f cfg b cl' := by
  cases u with
  | same => exact h
  | ended | connErr | timedOut => exact { h with }
  | slot => exact { h with res := fun r hr => (h.res r hr).imp_left (And.imp_right fun _ => rfl) }
  | ctxDone =>
    exact { h with
      fresh := fun hi => ⟨(h.fresh hi).1, by simp [(h.fresh hi).2]⟩
      body := fun hb hr => by simp [h.body hb hr]
      noBody := fun ht => by simp [h.noBody ht] }
  | refuse hi =>
    -- an unissued call is in no table: "transport is closed" is all it gets
    exact { h with
      fresh := nofun
      table := fun hd ht => absurd (h.table hd ht).1 (by simp [hi])
      res := fun r hr => by cases hr; exact .inr (.inl rfl)
      body := fun _ _ => (h.fresh hi).2
      chan := fun _ _ hw => by simp [waiting] at hw }
  | issue hi hn =>
    -- registered only while close() has not begun on the shared stream, so never after `closed`
    exact { h with
      fresh := nofun
      table := fun _ _ => ⟨rfl, (h.fresh hi).1⟩
      chan := fun ht _ _ => .inl ht
      swept := fun hs hcl => by simp [hs, hc hcl] at hn }
  | headers ok ht hw =>
    obtain ⟨hi, hr⟩ := (waiting_iff cl).mp hw
    exact { h with
      fresh := fun h' => by simp [hi] at h'
      body := fun _ hn => absurd hr hn
      noBody := fun h' => by simp [ht] at h' }
  | complete k hw hk =>
    obtain ⟨hi, hr⟩ := (waiting_iff cl).mp hw
    exact { h with
      fresh := fun h' => by simp [hi] at h'
      table := fun hd => by simp [hd]
      res := fun r hr' => by cases hr'; exact result_sound hk
      body := fun hb _ => relBody_false (.inl hb)
      noBody := fun ht => relBody_false (.inr (h.noBody ht))
      chan := fun _ _ hw' => by simp [waiting] at hw'
      swept := fun a b => by simp [h.swept a b] }
  | sweep =>
    unfold sweepCall
    split
    · rw [closeChans_eq]
      exact { h with
        table := fun _ => nofun
        res := fun r hr => (h.res r hr).imp_right (Or.imp_right fun x => ⟨by simp [x.1], x.2⟩)
        chan := fun a b w => by rcases h.chan a b w with x | x <;> simp [x]
        swept := fun _ _ => rfl }
    · exact { h with swept := fun hs => absurd hs ‹_› }

/-- Global resources: child, waiters, token, reader, listening stream, answer POST, the lock of the transport. -/
def GlobInv (f : Facts) (cfg : Cfg) (s : St) : Prop :=
  (s.closing = true → s.child = false) ∧
  (s.closed = true → s.closing = true) ∧
  (s.closing = false ∨ f.oneWait = true → s.closeWaiter = false ∧ (s.watcher = true → s.token = true)) ∧
  (cfg.t ≠ .stdio → s.watcher = false ∧ s.child = false ∧ s.closeWaiter = false) ∧
  (cfg.t.shared = false → s.reader = false) ∧
  (f.startGuarded = true → s.closing = true → s.stream = false) ∧
  ((cfg.t.http && cfg.getSSE) = false → s.stream = false ∧ s.starter = false) ∧
  (cfg.t = .stdio → s.closing = true → s.tctx = true) ∧
  (cfg.t = .stdio → f.exitCancels = true → s.watcher = false → s.tctx = true) ∧
  (cfg.t = .sse → f.endCloses = true → s.reader = false → s.closed = true) ∧
  (f.answerBound = true → s.closing = true → s.answerPost = false) ∧
  (f.lockFree = true → s.heldReads = 0 ∧ s.writerWaiting = false)

/-! The clauses other proofs read, by name (`GlobInv` itself stays a conjunction: that is the form `grind` closes `glob_step` in). -/
section
variable {f : Facts} {cfg : Cfg} {s : St} (h : GlobInv f cfg s)
include h
private theorem GlobInv.killed : s.closing = true → s.child = false := h.1
private theorem GlobInv.closing_of_closed : s.closed = true → s.closing = true := h.2.1
private theorem GlobInv.waiters : s.closing = false ∨ f.oneWait = true → s.closeWaiter = false ∧ (s.watcher = true → s.token = true) :=
  h.2.2.1
private theorem GlobInv.guarded : f.startGuarded = true → s.closing = true → s.stream = false := h.2.2.2.2.2.1
private theorem GlobInv.noStream : (cfg.t.http && cfg.getSSE) = false → s.stream = false ∧ s.starter = false := h.2.2.2.2.2.2.1
private theorem GlobInv.cancelled : cfg.t = .stdio → s.closing = true → s.tctx = true := h.2.2.2.2.2.2.2.1
private theorem GlobInv.exitCancels : cfg.t = .stdio → f.exitCancels = true → s.watcher = false → s.tctx = true :=
  h.2.2.2.2.2.2.2.2.1
private theorem GlobInv.endCloses : cfg.t = .sse → f.endCloses = true → s.reader = false → s.closed = true :=
  h.2.2.2.2.2.2.2.2.2.1
private theorem GlobInv.answerBound : f.answerBound = true → s.closing = true → s.answerPost = false := h.2.2.2.2.2.2.2.2.2.2.1
private theorem GlobInv.lockFree : f.lockFree = true → s.heldReads = 0 ∧ s.writerWaiting = false := h.2.2.2.2.2.2.2.2.2.2.2
end

private theorem glob_init (f : Facts) (cfg : Cfg) : GlobInv f cfg (init cfg) := by
  cases cfg with | mk t h g => cases t <;> cases g <;> simp [GlobInv, init, Transport.shared]

private theorem glob_step {f : Facts} {cfg : Cfg} {s s' : St} {e : Ev}
    (h : GlobInv f cfg s) (hs : step f cfg s e = some s') : GlobInv f cfg s' := by
  step_cases hs
  -- only `headers` and `complete` (they count `heldReads`), the library goroutines (`readerExit`, `procExit`, `watcherExit`,
  -- `closeWaitExit`, `starterRun`), `closeBegin` / `closeEnd`, a blocked `handlerOp` and the answer POST touch a field
  -- `GlobInv` reads
  all_goals (try (exact h))
  all_goals (grind [GlobInv, Transport.http, heldAfter])

structure Inv (f : Facts) (cfg : Cfg) (s : St) : Prop where
  glob : GlobInv f cfg s
  call : ∀ c, CallInv f cfg s.closed (s.calls c)

private theorem reach {f : Facts} {cfg : Cfg} {evs : List Ev} {s : St} (hr : run f cfg (init cfg) evs = some s) :
    Inv f cfg s := by
  refine run_induct f cfg (Inv f cfg) ?_ evs (init cfg) s ⟨glob_init f cfg, fun c => ?_⟩ hr
  · exact fun s s' e ⟨hg, hc⟩ hs => ⟨glob_step hg hs, fun d => (hc d).upd hg.closing_of_closed (step_calls hs d)⟩
  · constructor <;> simp [init, waiting]

/-! ## C08: never a wrong or partial result -/

/-- **No wrong result.** In the region "one closer per pending channel, checked receive", for every schedule of issues,
    answers, deliveries, faults, Close and returns: a call that has returned has an error or its own complete answer
    (handed over by the reader) — never a nil result, never a panic. -/
theorem C08_no_wrong_result (f : Facts) (cfg : Cfg) (h1 : f.oneCloser = true) (h2 : f.recvOk = true)
    (evs : List Ev) (s : St) (hr : run f cfg (init cfg) evs = some s) (c : Nat) (r : Res)
    (hret : (s.calls c).returned = some r) : (r = .ok ∧ (s.calls c).slot = true) ∨ r = .err :=
  (((reach hr).call c).res r hret).imp_right (·.resolve_right (by simp [h1, h2]))

/-- Whatever the facts: a call whose pending channel close() has not closed returns an error or its own answer. (This is
    what is left of `C08_no_wrong_result` for a transport whose pending channels have two closers, as stdio had.) -/
theorem C08_no_wrong_result_partial (f : Facts) (cfg : Cfg)
    (evs : List Ev) (s : St) (hr : run f cfg (init cfg) evs = some s) (c : Nat) (r : Res)
    (hret : (s.calls c).returned = some r) (hc : (s.calls c).chClosed = false) :
    (r = .ok ∧ (s.calls c).slot = true) ∨ r = .err :=
  (((reach hr).call c).res r hret).imp_right (·.resolve_right (by simp [hc]))

/-- No reader hands a truncated answer to a call: with anything less than the complete data line / document written,
    nothing is delivered, whatever the framing and however the connection continues. -/
theorem C08_no_partial_frame (t : Transport) (fr : Framing) (p : Pos) (tl : Tail)
    (hp : p = .none ∨ p = .hdrPartial ∨ p = .hdrDone ∨ p = .dataPartial) : delivers t fr p tl = false := by
  rcases hp with h | h | h | h <;> subst h <;> cases t <;> simp [delivers]

/-! ## C08: every pending call returns -/

private theorem complete_step {f : Facts} {cfg : Cfg} {s : St} {c : Nat} {k : Case}
    (hw : waiting (s.calls c) = true) (hk : ready f cfg s (s.calls c) k = true)
    (hrecv : k = .closedChan → f.recvOk = true) (hno : f.oneCloser = true ∨ (s.calls c).chClosed = false) :
    ∃ s', step f cfg s (.complete c k) = some s' ∧
      (s'.calls c).returned = some (if k = .answer then .ok else .err) := by
  have hres : result f (s.calls c) k = if k = .answer then .ok else .err := by
    unfold result; rcases hno with h | h <;> cases k <;> simp_all
  simp [step, hw, hk, setCall, hres]

/-- What `C08_returns` needs of the facts of transport `t`. -/
private def SelOk (f : Facts) (t : Transport) : Prop :=
  f.selCtx = true ∧
  (t = .stdio → f.selTctx = true ∧ f.selTimeout = true ∧ f.exitCancels = true) ∧
  (t = .sse → f.hasTable = true ∧ f.selClosed = true ∧ f.recvOk = true ∧ f.endCloses = true ∧ f.oneCloser = true)

private theorem returns_core {f : Facts} {cfg : Cfg} (hsel : SelOk f cfg.t)
    {evs : List Ev} {s : St} (hr : run f cfg (init cfg) evs = some s) {c : Nat}
    (hw : waiting (s.calls c) = true) {k : Cause} (ha : applicable cfg.t k = true) (hh : happened s c k = true)
    (hno : f.oneCloser = true ∨ (s.calls c).chClosed = false) :
    ∃ es k' s', es.length ≤ 1 ∧ (∀ e ∈ es, e = Ev.readerExit ∨ e = Ev.watcherExit) ∧
      run f cfg s (es ++ [.complete c k']) = some s' ∧
      ((s'.calls c).returned = some .err ∨ ((s.calls c).slot = true ∧ (s'.calls c).returned = some .ok)) := by
  obtain ⟨hctx, hstdio, hsse⟩ := hsel
  obtain ⟨hg, hch⟩ := reach hr
  -- the call leaves with an error through the case `kc`, ready in `s1`, which the library steps `es` lead to
  have leave : ∀ (es : List Ev) (s1 : St) (kc : Case), es.length ≤ 1 → (∀ e ∈ es, e = Ev.readerExit ∨ e = Ev.watcherExit) →
      run f cfg s es = some s1 → waiting (s1.calls c) = true → ready f cfg s1 (s1.calls c) kc = true → kc ≠ .answer →
      (kc = .closedChan → f.recvOk = true) → (f.oneCloser = true ∨ (s1.calls c).chClosed = false) →
      ∃ es k' s', es.length ≤ 1 ∧ (∀ e ∈ es, e = Ev.readerExit ∨ e = Ev.watcherExit) ∧
        run f cfg s (es ++ [.complete c k']) = some s' ∧
        ((s'.calls c).returned = some .err ∨ ((s.calls c).slot = true ∧ (s'.calls c).returned = some .ok)) := by
    intro es s1 kc h1 h2 h3 h4 h5 h6 h7 h8
    obtain ⟨s', hs', hres⟩ := complete_step h4 h5 h7 h8
    exact ⟨es, kc, s', h1, h2, by simp [run_append, h3, run, hs'], .inl (by simpa [h6] using hres)⟩
  have direct := fun kc => leave [] s kc (by simp) (by simp) rfl hw
  cases k with
  | ctx => exact direct .ctx (by simpa [ready, happened, hctx] using hh) nofun nofun hno
  | conn => exact direct .connErr (by simpa [ready, happened] using hh) nofun nofun hno
  | timeout =>
    have ht : cfg.t = .stdio := by simpa [applicable] using ha
    exact direct .timeout (by simpa [ready, happened, (hstdio ht).2.1] using hh) nofun nofun hno
  | streamEnd =>
    have ht : cfg.t = .sse := by simpa [applicable] using ha
    obtain ⟨hT, hS, hR, hE, hO⟩ := hsse ht
    have hsh : cfg.t.shared = true := by simp [ht, Transport.shared]
    rcases Bool.eq_false_or_eq_true (s.calls c).slot with hslot | hslot
    · -- the answer is already in the call's channel: it is received first
      have hk : ready f cfg s (s.calls c) .answer = true := by simp [ready, hslot, ht]
      obtain ⟨s', hs', hres⟩ := complete_step hw hk nofun (.inl hO)
      exact ⟨[], .answer, s', by simp, by simp, by simp [run, hs'], .inr ⟨hslot, hres⟩⟩
    · -- registered, or its channel closed: after the reader's close() it is closed
      have hcc : ((s.calls c).chClosed || (s.calls c).inTable) = true := by
        rcases (hch c).chan hT hsh hw with x | x <;> simp [x]
      cases hrd : s.reader with
      | false =>
        have hnt : (s.calls c).inTable = false := (hch c).swept hsh (hg.endCloses ht hE hrd)
        exact direct .closedChan (by simpa [ready, hS, hslot, hnt] using hcc) nofun (fun _ => hR) (.inl hO)
      | true =>
        have hdown : s.streamDown = true := by simpa [happened] using hh
        let s1 : St := { s with reader := false, closing := true, closed := true, streamDown := true,
                                calls := fun d => closeChans (s.calls d), answerPost := s.answerPost && !f.answerBound }
        exact leave [.readerExit] s1 .closedChan (by simp) (by simp) (by simp [run, step, hrd, hdown, hE, ht, s1])
          (by simpa [s1, closeChans_eq, waiting] using hw) (by simp [s1, ready, closeChans_eq, hS, hslot, hcc])
          nofun (fun _ => hR) (.inl hO)
  | procExit =>
    have ht : cfg.t = .stdio := by simpa [applicable] using ha
    obtain ⟨hT, _, hX⟩ := hstdio ht
    cases htc : s.tctx with
    | true => exact direct .tctx (by simp [ready, hT, htc]) nofun nofun hno
    | false =>
      -- the transport context is not cancelled: Close() has not begun and the watcher is still there, holding the token
      have hncl : s.closing = false := by simpa [htc] using hg.cancelled ht
      have hwt : s.watcher = true := by simpa [htc] using hg.exitCancels ht hX
      have hchild : s.child = false := by simpa [happened] using hh
      let s1 : St := { s with watcher := false, token := false, tctx := s.tctx || (f.exitCancels && !s.closing) }
      exact leave [.watcherExit] s1 .tctx (by simp) (by simp)
        (by simp [run, step, hwt, hchild, (hg.waiters (.inl hncl)).2 hwt, s1]) hw (by simp [ready, hT, s1, hX, hncl]) nofun nofun hno

private theorem selOk_of_good {f : Facts} {t : Transport} (hg : f.goodFor t = true) : SelOk f t ∧ f.oneCloser = true := by
  cases t <;> simp_all [Facts.goodFor, SelOk, Transport.shared]

/-- **Every pending call returns.** In the good region of transport `cfg.t`, in every reachable state (any schedule of
    issues, answers, deliveries, faults, Close, returns): once a cause of the property's list has happened — the caller's
    context ended, the call's own HTTP exchange failed, the transport timer fired, the event stream ended (legacy SSE),
    the child died (stdio) — the waiting call can return after at most one step of a library goroutine (the stream reader
    closing the transport, the process watcher cancelling the transport context), and what it returns is an error — or its
    own complete answer if that had already been handed over; never anything else. -/
theorem C08_returns (f : Facts) (cfg : Cfg) (hg : f.goodFor cfg.t = true)
    (evs : List Ev) (s : St) (hr : run f cfg (init cfg) evs = some s) (c : Nat)
    (hw : waiting (s.calls c) = true) (k : Cause) (ha : applicable cfg.t k = true) (hh : happened s c k = true) :
    ∃ es k' s', es.length ≤ 1 ∧ (∀ e ∈ es, e = Ev.readerExit ∨ e = Ev.watcherExit) ∧
      run f cfg s (es ++ [.complete c k']) = some s' ∧
      ((s'.calls c).returned = some .err ∨ ((s.calls c).slot = true ∧ (s'.calls c).returned = some .ok)) :=
  returns_core (selOk_of_good hg).1 hr hw ha hh (Or.inl (selOk_of_good hg).2)

/-- What is left of `C08_returns` where a pending channel has two closers (stdio before its repair): the same conclusion for a call
    whose channel close() has not closed yet. -/
theorem C08_returns_partial (f : Facts) (cfg : Cfg) (ht : cfg.t = .stdio)
    (hg : ({ f with oneCloser := true, recvOk := true, oneWait := true }).goodFor .stdio = true)
    (evs : List Ev) (s : St) (hr : run f cfg (init cfg) evs = some s) (c : Nat)
    (hw : waiting (s.calls c) = true) (hc : (s.calls c).chClosed = false)
    (k : Cause) (ha : applicable cfg.t k = true) (hh : happened s c k = true) :
    ∃ es k' s', es.length ≤ 1 ∧ (∀ e ∈ es, e = Ev.readerExit ∨ e = Ev.watcherExit) ∧
      run f cfg s (es ++ [.complete c k']) = some s' ∧
      ((s'.calls c).returned = some .err ∨ ((s.calls c).slot = true ∧ (s'.calls c).returned = some .ok)) := by
  refine returns_core ?_ hr hw ha hh (Or.inr hc)
  simp_all [Facts.goodFor, SelOk]

/-- Witness for "two closers": Close() closes the channel of a call that is still waiting, the call then leaves through the
    cancelled transport context and its deferred cleanup closes the channel a second time. -/
theorem C08_double_close_witness :
    ∃ s, run { Facts.allGood with oneCloser := false } { t := .stdio } (init { t := .stdio })
        [.issue 0, .closeBegin, .closeEnd, .complete 0 .tctx] = some s ∧ (s.calls 0).returned = some .crash := by
  refine ⟨_, rfl, ?_⟩; decide

/-- Witness for "receive without ok": with a single closer but an unchecked receive the same schedule returns a nil
    result without an error. -/
theorem C08_nil_result_witness :
    ∃ s, run { Facts.allGood with recvOk := false } { t := .stdio } (init { t := .stdio })
        [.issue 0, .closeBegin, .closeEnd, .complete 0 .closedChan] = some s ∧ (s.calls 0).returned = some .nilResult := by
  refine ⟨_, rfl, ?_⟩; decide

/-- Witness for a wait without the transport-context case: after the child died and the watcher cancelled, the call has no
    ready case (it stays until its timer or the caller's context). -/
theorem C08_lost_case_witness :
    ∃ s, run { Facts.allGood with selTctx := false } { t := .stdio } (init { t := .stdio })
        [.issue 0, .procExit, .watcherExit] = some s ∧ s.tctx = true ∧
      ∀ k, step { Facts.allGood with selTctx := false } { t := .stdio } s (.complete 0 k) = none := by
  refine ⟨_, rfl, by decide, ?_⟩
  intro k; cases k <;> decide

/-! ## C08: the pending table -/

/-- **Pending table empty.** With the delete deferred, in every reachable state: a registered call is one that has not
    returned; so once every issued call has returned — through whichever case — the table is empty. -/
theorem C08_pending_empty (f : Facts) (cfg : Cfg) (hd : f.deleteDeferred = true)
    (evs : List Ev) (s : St) (hr : run f cfg (init cfg) evs = some s)
    (hall : ∀ c, (s.calls c).issued = true → (s.calls c).returned ≠ none) : ∀ c, (s.calls c).inTable = false :=
  fun c => Bool.eq_false_iff.mpr fun hin =>
    have ⟨hi, hn⟩ := ((reach hr).call c).table hd hin
    hall c hi hn

/-- Witness for a delete that is not deferred: the call leaves through its context, the entry stays. -/
theorem C08_pending_leak_witness :
    ∃ s, run { Facts.allGood with deleteDeferred := false } { t := .sse } (init { t := .sse })
        [.issue 0, .ctxDone 0, .complete 0 .ctx] = some s ∧ (s.calls 0).returned = some .err ∧ (s.calls 0).inTable = true := by
  refine ⟨_, rfl, ?_⟩; decide

/-- **Server-issued requests.** A request a server sends to its peer (`SendRequest`, `ListRoots`) is an entry in the
    server's pending table; with every insert's delete deferred (the regenerated fact of `C08_server_inserts_deferred`),
    for every schedule: once every issued request has returned — answered, ended by its caller's context or timer, or
    because the request could not be written to the peer's stream — the table is empty. -/
theorem C08_server_pending_released (ins : List SrvInsertSite) (sv : Server)
    (hd : (srvFacts ins sv).deleteDeferred = true)
    (evs : List Ev) (s : St) (hr : run (srvFacts ins sv) srvCfg (init srvCfg) evs = some s)
    (hall : ∀ c, (s.calls c).issued = true → (s.calls c).returned ≠ none) : ∀ c, (s.calls c).inTable = false :=
  C08_pending_empty (srvFacts ins sv) srvCfg hd evs s hr hall

/-- Witness for a server-side delete that is deferred only after an early return: the request is registered, writing it
    to the peer's stream fails (the stream is going away), the call returns its error — the entry stays for ever. -/
theorem C08_server_pending_leak_witness :
    ∃ s, run { Facts.allGood with deleteDeferred := false } srvCfg (init srvCfg)
        [.issue 0, .connErr 0, .complete 0 .connErr] = some s ∧ (s.calls 0).returned = some .err ∧ (s.calls 0).inTable = true := by
  refine ⟨_, rfl, ?_⟩; decide

/-! ## C08: calls are independent of each other -/

/-- **Independence.** With `lockFree` (no stream-reading function of the transport holds a lock across its read loop — the
    regenerated fact of `C08_no_lock_across_reads`), in every reachable state nobody holds a lock of the transport while
    reading and nobody waits for one: what a call, Close() or the handler registry can do never depends on another call
    being stalled — `Register/UnregisterNotificationHandler` go through in every reachable state, and
    `C08_close_takes_effect` / `C08_returns` hold whatever the other calls do. -/
theorem C08_calls_independent (f : Facts) (cfg : Cfg) (hl : f.lockFree = true)
    (evs : List Ev) (s : St) (hr : run f cfg (init cfg) evs = some s) :
    s.heldReads = 0 ∧ s.writerWaiting = false ∧ step f cfg s .handlerOp = some s := by
  have hlock := (reach hr).glob.lockFree hl
  exact ⟨hlock.1, hlock.2, by simp [step, hl]⟩

/-- Witness for a read lock held across the stream read (`defer RUnlock` in `handleSSEResponse`): one call is stalled on its
    SSE answer (headers, then silence); `RegisterNotificationHandler` blocks behind it and, waiting for the write side,
    keeps every later reader out: a second call never gets to read its (complete) answer, and Close() blocks too — nothing
    is closed. -/
theorem C08_lock_across_read_witness :
    ∃ s, run { Facts.allGood with lockFree := false } { t := .streamSse } (init { t := .streamSse })
        [.issue 0, .headers 0 true, .handlerOp, .issue 1] = some s ∧ s.heldReads = 1 ∧ s.writerWaiting = true ∧
      step { Facts.allGood with lockFree := false } { t := .streamSse } s (.headers 1 true) = none ∧
      step { Facts.allGood with lockFree := false } { t := .streamSse } s (.deliver 1) = none ∧
      (∃ s', step { Facts.allGood with lockFree := false } { t := .streamSse } s .closeBegin = some s' ∧ s'.closing = false) := by
  refine ⟨_, rfl, by decide, by decide, by decide, by decide, ⟨_, rfl, by decide⟩⟩

/-! ## C08: the resource ledger after Close -/

/-- Component-wise, for any facts: after Close() has begun, in a quiescent state, the reader and the child are gone; the
    response bodies are released if every body is closed; nobody is left in `Cmd.Wait` if it has a single call site; no
    listening stream is open if its start is guarded (or none is ever started). -/
theorem C08_ledger_partial (f : Facts) (cfg : Cfg)
    (evs : List Ev) (s : St) (hr : run f cfg (init cfg) evs = some s)
    (hc : s.closing = true) (hq : quiescent f cfg s) :
    s.reader = false ∧ s.child = false ∧
    (f.bodyClosed = true → ∀ c, (s.calls c).body = false) ∧
    (f.oneWait = true → s.watcher = false ∧ s.closeWaiter = false) ∧
    ((f.startGuarded = true ∨ (cfg.t.http && cfg.getSSE) = false) → s.stream = false) ∧
    (f.answerBound = true → s.answerPost = false) := by
  obtain ⟨hp, hb⟩ := reach hr
  obtain ⟨hall, hre, hwe, _, _⟩ := hq
  have hchild : s.child = false := hp.killed hc
  refine ⟨?reader, hchild, ?bodies, ?waiters, ?stream, fun ha => hp.answerBound ha hc⟩
  case reader =>
    cases hrd : s.reader with
    | false => rfl
    | true => simp [step, hrd, hc] at hre; split at hre <;> simp at hre
  case bodies =>
    intro hbc c
    cases hi : (s.calls c).issued with
    | false => exact ((hb c).fresh hi).2
    | true => exact (hb c).body hbc (hall c hi)
  case waiters =>
    intro how
    obtain ⟨a, b⟩ := hp.waiters (.inr how)
    refine ⟨?_, a⟩
    cases hwv : s.watcher with
    | false => rfl
    | true => simp [step, hwv, hchild, b hwv] at hwe
  case stream =>
    rintro (x | x)
    · exact hp.guarded x hc
    · exact (hp.noStream x).1

/-- **Ledger zero after Close.** In the region "every body closed, one `Cmd.Wait`, guarded stream start, answer POSTs bound
    to the stream's context": for every
    schedule, once Close() has completed and the state is quiescent (every issued call has returned, no library goroutine
    can take a step, the stream starter has run), nothing is left: no response body, no reader, no child, nobody in
    `Cmd.Wait`, no listening stream, no POST with an answer to the server in flight. -/
theorem C08_ledger_zero_after_close (f : Facts) (cfg : Cfg)
    (hb : f.bodyClosed = true) (hw : f.oneWait = true) (hg : f.startGuarded = true) (ha : f.answerBound = true)
    (evs : List Ev) (s : St) (hr : run f cfg (init cfg) evs = some s)
    (hc : s.closed = true) (hq : quiescent f cfg s) : ledgerZero s := by
  have hcl : s.closing = true := (reach hr).glob.closing_of_closed hc
  obtain ⟨a, b, c, d, e, g⟩ := C08_ledger_partial f cfg evs s hr hcl hq
  exact ⟨c hb, a, b, (d hw).1, (d hw).2, e (Or.inl hg), g ha⟩

/-- **Close takes effect whatever the client's state.** With `closeAny` (Close() reaches `transport.close()` under no
    condition but `transport != nil`) and `lockFree` (no call holds a lock of the transport while it reads its stream), in every reachable state in which Close has not begun — in particular after a
    failed handshake or while one is in flight, when the client's state is Disconnected but the transport is up — Close()
    runs to completion: the closed flag is set, the pending channels are closed.  (`C08_ledger_zero_after_close` then
    applies to what follows.) -/
theorem C08_close_takes_effect (f : Facts) (cfg : Cfg) (ha : f.closeAny = true) (hl : f.lockFree = true)
    (evs : List Ev) (s : St) (hr : run f cfg (init cfg) evs = some s) (hc : s.closing = false) :
    ∃ s', run f cfg s [.closeBegin, .closeEnd] = some s' ∧ s'.closed = true ∧ s'.closing = true := by
  have hcd : s.closed = false := Bool.eq_false_iff.mpr fun h => by simp [(reach hr).glob.closing_of_closed h] at hc
  cases ht : cfg.t <;> simp [run, step, hc, ha, hl, ht, hcd]

/-- Witness for a Close() guarded by the client's state (returns early when the state is Disconnected): the legacy SSE
    handshake fails after the event stream is up (the initialize POST is answered by nothing, the caller's deadline
    passes); Close() is not enabled at all, and nothing else can move: the reader (and its connection) stays for ever. -/
theorem C08_close_skipped_witness :
    ∃ s, run { Facts.allGood with closeAny := false } { t := .sse, connected := false } (init { t := .sse, connected := false })
        [.issue 0, .ctxDone 0, .complete 0 .ctx] = some s ∧ (s.calls 0).returned = some .err ∧
      step { Facts.allGood with closeAny := false } { t := .sse, connected := false } s .closeBegin = none ∧
      step { Facts.allGood with closeAny := false } { t := .sse, connected := false } s .readerExit = none ∧
      s.reader = true := by
  refine ⟨_, rfl, ?_⟩; decide

/-- … and for the Streamable client: Close() issued while the handshake is in flight (state Disconnected) does nothing,
    the handshake then succeeds and its asynchronous starter opens the listening stream: it outlives the Close(). -/
theorem C08_close_during_handshake_witness :
    ∃ s, run { Facts.allGood with closeAny := false } { t := .streamJson, getSSE := true, connected := false }
        (init { t := .streamJson, getSSE := true, connected := false })
        [.issue 0, .headers 0 true, .deliver 0, .bodyEnd 0, .complete 0 .answer, .starterRun] = some s ∧
      step { Facts.allGood with closeAny := false } { t := .streamJson, getSSE := true, connected := false } s .closeBegin = none ∧
      s.stream = true := by
  refine ⟨_, rfl, ?_⟩; decide

/-- Witness for a wait whose request is sent with a context detached from the caller's (the legacy SSE handshake's stream
    request as it was before /repo 0002846: `start` built it with `context.WithoutCancel(ctx)` and nothing else watched the
    caller's context; finding `calls:sse:initialize_ignores_context_before_stream_headers`): the caller's context ends and
    no case of the wait is ready; only Close() ends the call — with an error. -/
theorem C08_detached_wait_witness :
    ∃ s, run { Facts.allGood with selCtx := false } { t := .sse, connected := false } (init { t := .sse, connected := false })
        [.issue 0, .ctxDone 0] = some s ∧ (s.calls 0).ctxDone = true ∧
      (∀ k, step { Facts.allGood with selCtx := false } { t := .sse, connected := false } s (.complete 0 k) = none) ∧
      ∃ s', run { Facts.allGood with selCtx := false } { t := .sse, connected := false } s
        [.closeBegin, .closeEnd, .complete 0 .closedChan] = some s' ∧ (s'.calls 0).returned = some .err := by
  refine ⟨_, rfl, by decide, ?_, ⟨_, rfl, by decide⟩⟩
  intro k; cases k <;> decide

/-- Witness for a back-off that sleeps (`time.Sleep(backoff)` between two attempts of a retrying client instead of a select
    over {timer, caller's context}): the call is between two attempts, its caller's context ends, and no case of its wait is
    ready; it moves again only when the back-off timer fires — and returns the context's error then. -/
theorem C08_backoff_sleep_witness :
    ∃ s, run { Facts.allGood with selCtx := false } { t := .streamJson } (init { t := .streamJson })
        [.issue 0, .ctxDone 0] = some s ∧ (s.calls 0).ctxDone = true ∧
      (∀ k, step { Facts.allGood with selCtx := false } { t := .streamJson } s (.complete 0 k) = none) ∧
      ∃ s', run { Facts.allGood with selCtx := false } { t := .streamJson } s
        [.timeout 0, .complete 0 .timeout] = some s' ∧ (s'.calls 0).returned = some .err := by
  refine ⟨_, rfl, by decide, ?_, ⟨_, rfl, by decide⟩⟩
  intro k; cases k <;> decide

/-- Witness for a wait without a case that ends on Close() (the legacy SSE handshake's wait for the endpoint event as it was
    before /repo 3e0df05: a select over the endpoint event, the caller's context and a timer; finding
    `calls:sse:close_does_not_end_initialize_before_endpoint_event`): Close() runs to completion, closes the call's channel
    and ends the reader, and no case of the wait is ready; the call ends only when its caller's context does. -/
theorem C08_wait_without_close_case_witness :
    ∃ s, run { Facts.allGood with selClosed := false } { t := .sse, connected := false } (init { t := .sse, connected := false })
        [.issue 0, .closeBegin, .closeEnd, .readerExit] = some s ∧ s.closed = true ∧ s.reader = false ∧
      (s.calls 0).chClosed = true ∧
      (∀ k, step { Facts.allGood with selClosed := false } { t := .sse, connected := false } s (.complete 0 k) = none) ∧
      ∃ s', run { Facts.allGood with selClosed := false } { t := .sse, connected := false } s
        [.ctxDone 0, .complete 0 .ctx] = some s' ∧ (s'.calls 0).returned = some .err := by
  refine ⟨_, rfl, by decide, by decide, by decide, ?_, ⟨_, rfl, by decide⟩⟩
  intro k; cases k <;> decide

/-- Witness for an answer POST made with a context detached from the stream's: the server's request arrives on the listening
    stream, the reader starts the POST with the client's answer, the peer stalls on it; Close() completes, everything else
    is quiescent — the POST (its goroutine and connection) is still there, until the peer responds or its own timer fires. -/
theorem C08_answer_post_outlives_close_witness :
    ∃ s, run { Facts.allGood with answerBound := false } { t := .streamJson, getSSE := true } (init { t := .streamJson, getSSE := true })
        [.starterRun, .srvRequest, .closeBegin, .closeEnd] = some s ∧ s.closed = true ∧ s.stream = false ∧ s.answerPost = true ∧
      ∃ s', step { Facts.allGood with answerBound := false } { t := .streamJson, getSSE := true } s .answerDone = some s' ∧ s'.answerPost = false := by
  refine ⟨_, rfl, by decide, by decide, by decide, ⟨_, rfl, by decide⟩⟩

/-- Witness for a body that is not closed (D18): a Streamable call with an SSE answer returns at the result; after Close,
    with everything quiescent, its response body is still held. -/
theorem C08_body_leak_witness :
    ∃ s, run { Facts.allGood with bodyClosed := false } { t := .streamSse } (init { t := .streamSse })
        [.issue 0, .headers 0 true, .deliver 0, .complete 0 .answer, .closeBegin, .closeEnd] = some s ∧
      s.closed = true ∧ (s.calls 0).returned = some .ok ∧ (s.calls 0).body = true := by
  refine ⟨_, rfl, ?_⟩; decide

/-- Witness for an unguarded asynchronous stream start (D19): Close() runs before the starter goroutine; the stream is
    opened afterwards and stays. -/
theorem C08_stream_after_close_witness :
    ∃ s, run { Facts.allGood with startGuarded := false } { t := .streamJson, getSSE := true } (init { t := .streamJson, getSSE := true })
        [.closeBegin, .closeEnd, .starterRun] = some s ∧ s.closed = true ∧ s.starter = false ∧ s.stream = true := by
  refine ⟨_, rfl, ?_⟩; decide

/-- Witness for two `Cmd.Wait` call sites: Close() on a live child starts a second waiter; whichever of the two receives
    the Cmd's single context result, the other one stays for ever. -/
theorem C08_double_wait_witness :
    (∃ s, run { Facts.allGood with oneWait := false } { t := .stdio } (init { t := .stdio })
        [.closeBegin, .closeEnd, .readerExit, .watcherExit] = some s ∧ s.closeWaiter = true ∧
        step { Facts.allGood with oneWait := false } { t := .stdio } s .closeWaitExit = none) ∧
    (∃ s, run { Facts.allGood with oneWait := false } { t := .stdio } (init { t := .stdio })
        [.closeBegin, .closeEnd, .readerExit, .closeWaitExit] = some s ∧ s.watcher = true ∧
        step { Facts.allGood with oneWait := false } { t := .stdio } s .watcherExit = none) := by
  refine ⟨⟨_, rfl, ?_⟩, ⟨_, rfl, ?_⟩⟩ <;> decide

/-! ## The regenerated facts -/

open Mcp.Gen.CallFacts

/-- Legacy SSE client of today: every fact of its region holds (select with context and checked receive, deferred delete,
    one closer, `readSSE` ends in `close()`, every body closed or handed to `readSSE` which closes it). -/
theorem C08_facts_sse : (factsOf clTables .sse).goodFor .sse = true := by decide

/-- Streamable client, JSON answers, today: in the good region (request built with the caller's context, body closed by
    `send`'s deferred Close, the listening stream's start refused after `close()`). -/
theorem C08_facts_streamJson : (factsOf clTables .streamJson).goodFor .streamJson = true := by decide

/-- Streamable client, SSE answers, today: in the good region (`handleSSEResponse` closes the body it is handed, its wait
    has the caller-context case, guarded stream start). -/
theorem C08_facts_streamSse : (factsOf clTables .streamSse).goodFor .streamSse = true := by decide

/-- stdio client of today: in the good region (wait with answer / caller context / timer / transport context and a
    checked receive, deferred delete, `close()` the only closer of a pending channel, `processWatcher` the only caller of
    `Cmd.Wait` and it cancels the transport context). -/
theorem C08_facts_stdio : (factsOf clTables .stdio).goodFor .stdio = true := by decide

/-- Every function that inserts into a pending table defers the delete. -/
theorem C08_inserts_deferred : clInserts.isEmpty = false ∧ clInserts.all (·.deleteDeferred) = true := by decide

/-- The same on the servers: every function of the Streamable, legacy SSE and stdio servers that registers a
    server-issued request (directly, or through `RegisterRequest`) defers the delete before any return can follow. -/
theorem C08_server_inserts_deferred : ∀ sv : Server, (srvFacts srvInserts sv).deleteDeferred = true := by
  intro sv; cases sv <;> decide

/-- `Client.Close` and `StdioClient.Close` reach `transport.close()` under no condition but `transport != nil`. -/
theorem C08_close_unguarded : ∀ c : Client, clTables.closeUnguarded.any (· = c) = true := by
  intro c; cases c <;> decide

/-- The Streamable server's `handleGet`, on its way out (after the stream's context ended): the write deadline is set
    before the stream's write lock is taken.  A sender blocked in a write to a peer that stays connected but no longer
    reads holds that lock; the deadline is what releases it.  (The other order is the shape of
    `C08_lock_across_read_witness`: a lock held across a blocked I/O operation keeps everybody who needs it waiting —
    here the handler, the blocked sender and every later writer; reached on the real server by the script
    `stalledPeer`, fingerprints `calls:server:streamable:stalled-peer-not-released-after-{delete,replace}`.) -/
theorem C08_get_exit_deadline_before_lock : clTables.getExitDeadlineFirst = true := by decide

/-- No stream-reading function of the three client transports (`handleSSEResponse`, `handleGetSSEEvents`, `readSSE`,
    `readLoop`, …) holds a lock across its read loop: no deferred unlock in such a function, every lock taken before the
    loop released before it. -/
theorem C08_no_lock_across_reads : ∀ c : Client, clTables.lockFree.any (· = c) = true := by
  intro c; cases c <;> decide

/-- `retry.Execute` waits between two attempts in a select over the back-off timer and the caller's context; it never
    sleeps.  Part of `selCtx` of every transport (`factsOf`). -/
theorem C08_backoff_selects_ctx : clTables.backoffCtx = true := by decide

/-- `sendResponseToServer` (Streamable) and `sendResponseMessage` (legacy SSE) make the POST that carries the client's
    answer to a request of the server with a context derived from the stream's context, which Close() cancels. -/
theorem C08_answer_posts_bound : clTables.answerBound.any (· = .streamable) = true ∧ clTables.answerBound.any (· = .sse) = true := by decide

/-- The legacy SSE client's `start`: the stream request is bounded by the caller's context while it is being established
    (built with it, or cancelled by a goroutine that watches it), and the wait for the endpoint event has the case of the
    stream's context, which Close() cancels.  Both are part of `factsOf clTables .sse` (`selCtx`, `selClosed`). -/
theorem C08_sse_start_bounded : clTables.startBounded = true ∧ clTables.startSelStream = true := by decide

/-- Every function that obtains an `*http.Response` closes its body on every path or hands it to a function that
    does (`send` → `handleSSEResponse`, `start` → `readSSE`). -/
theorem C08_bodies_closed : ((clBodies.filter (·.obtains)).all (siteOk clTables)) = true := by decide

/-- The waits of today's call paths have the cases the property needs: `sendRequest` (stdio) answer / caller context /
    timer / transport context; `sendRequestInternal` (legacy SSE) caller context / checked receive;
    `handleSSEResponse` (Streamable) caller context around a blocking read. -/
theorem C08_selects_current :
    selHas clTables .stdio (fun x => x.ctx && x.tctx && x.timer && x.recv) = true ∧
    selHas clTables .sse (fun x => x.ctx && x.recv && x.recvOk) = true ∧
    selHas clTables .streamSse (fun x => x.ctx && x.dflt) = true := by decide

-- non-vacuity: the good corner is good for every transport
example : ∀ t : Transport, Facts.allGood.goodFor t = true := by intro t; cases t <;> decide

-- non-vacuity of `C08_server_pending_released`: a request answered, one ended by its context, one whose write failed
example : ∃ s, run (srvFacts [{ server := .streamable, fn := [], table := [], deleteDeferred := true }] .streamable) srvCfg (init srvCfg)
      [.issue 0, .issue 1, .issue 2, .frame 0, .deliver 0, .complete 0 .answer, .ctxDone 1, .complete 1 .ctx, .connErr 2, .complete 2 .connErr] = some s ∧
    (s.calls 0).returned = some .ok ∧ (s.calls 1).returned = some .err ∧ (s.calls 2).returned = some .err ∧
    (s.calls 0).inTable = false ∧ (s.calls 1).inTable = false ∧ (s.calls 2).inTable = false := by
  refine ⟨_, rfl, ?_⟩; decide

-- non-vacuity of `C08_close_takes_effect`: Close() after a failed legacy SSE handshake (state Disconnected, reader alive)
example : ∃ s, run Facts.allGood { t := .sse, connected := false } (init { t := .sse, connected := false })
      [.issue 0, .ctxDone 0, .complete 0 .ctx, .closeBegin, .closeEnd, .readerExit] = some s ∧
    s.closed = true ∧ s.reader = false ∧ (s.calls 0).inTable = false := by
  refine ⟨_, rfl, ?_⟩; decide

-- non-vacuity of `C08_returns`: reachable states with a waiting call and a cause that happened; one call got its answer
example : ∃ s, run Facts.allGood { t := .sse } (init { t := .sse })
      [.issue 0, .issue 1, .frame 0, .deliver 0, .complete 0 .answer, .streamEnd] = some s ∧
    (s.calls 0).returned = some .ok ∧ waiting (s.calls 1) = true ∧ happened s 1 .streamEnd = true ∧
    applicable Transport.sse .streamEnd = true := by
  refine ⟨_, rfl, ?_⟩; decide

example : ∃ s, run Facts.allGood { t := .stdio } (init { t := .stdio })
      [.issue 0, .procExit, .watcherExit, .complete 0 .tctx] = some s ∧ (s.calls 0).returned = some .err ∧ (s.calls 0).inTable = false := by
  refine ⟨_, rfl, ?_⟩; decide

-- non-vacuity of `C08_ledger_zero_after_close`: a closed, quiescent state (a call answered, a call ended by the stream's
-- end, then Close)
example : ∃ s, run Facts.allGood { t := .stdio } (init { t := .stdio })
      [.issue 0, .frame 0, .deliver 0, .complete 0 .answer, .issue 1, .closeBegin, .complete 1 .tctx, .closeEnd, .readerExit, .watcherExit] = some s ∧
    s.closed = true ∧ quiescent Facts.allGood { t := .stdio } s ∧ ledgerZero s := by
  refine ⟨_, rfl, by decide, ⟨?_, by decide, by decide, by decide, by decide⟩, ⟨?_, by decide, by decide, by decide, by decide, by decide⟩⟩
  -- both facts about every call: 0 and 1 by evaluation, the others were never touched
  all_goals
    intro c
    by_cases h0 : c = 0
    · subst h0; decide
    · by_cases h1 : c = 1
      · subst h1; decide
      · simp [setCall, closeChans, h0, h1, init, Facts.allGood, Transport.shared]

end Mcp.Props.C08
