/-
  C02, string and framing layer: what `json.Marshal` makes of a string can be undone and never contains a raw line break
  (so a JSON message is one stdio line / one SSE `data:` line), and what `WriteEvent` / `formatSSEEvent` put on the wire is
  read back by a conforming SSE reader as the data that went in.
-/
import Mcp.Lemmas.Lines
namespace Mcp.Props.C02
open Mcp.Str Mcp.Json Mcp.Escape

/-! ## escaping -/

/-- the two-character escapes: code point, letter after the backslash -/
private def shortEscapes : List (Nat × Nat) := [(34, 34), (92, 92), (8, 98), (12, 102), (10, 110), (13, 114), (9, 116)]

private theorem shortEscapes_spec : ∀ p ∈ shortEscapes,
    escChar p.1 = [92, p.2] ∧ unescSimple p.2 = p.1 ∧ p.2 ≠ 117 ∧ p.2 ≠ 10 ∧ p.2 ≠ 13 := by decide

private theorem escChar_cases (c : Nat) :
    (∃ e, (c, e) ∈ shortEscapes ∧ escChar c = [92, e])
      ∨ (c < 65536 ∧ escChar c = 92 :: 117 :: hex4 c)
      ∨ (c ≠ 92 ∧ c ≠ 10 ∧ c ≠ 13 ∧ escChar c = [c]) := by
  by_cases h : c ∈ shortEscapes.map (·.1)
  · obtain ⟨⟨_, e⟩, hp, rfl⟩ := List.mem_map.1 h
    exact .inl ⟨e, hp, (shortEscapes_spec _ hp).1⟩
  · simp only [shortEscapes, List.map, List.mem_cons, List.not_mem_nil, or_false, not_or] at h
    by_cases hu : c < 32 ∨ c = 60 ∨ c = 62 ∨ c = 38 ∨ c = 8232 ∨ c = 8233
    · exact .inr (.inl ⟨by omega, by simp [escChar, h, hu]⟩)
    · exact .inr (.inr ⟨by omega, by omega, by omega, by simp [escChar, h, hu]⟩)

private theorem unescUnits_plain (c : Nat) (t : Text) (h : c ≠ 92) : unescUnits (c :: t) = c :: unescUnits t := by
  rw [unescUnits.eq_def]; simp [h]

private theorem unescUnits_u (a b c d : Nat) (t : Text) :
    unescUnits (92 :: 117 :: a :: b :: c :: d :: t) = hexVal4 a b c d :: unescUnits t := by
  rw [unescUnits.eq_def]; simp

private theorem unescUnits_short (e : Nat) (t : Text) (h : e ≠ 117) :
    unescUnits (92 :: e :: t) = unescSimple e :: unescUnits t := by
  rw [unescUnits.eq_def]; simp [h]

private theorem hexVal_hexDigit : ∀ n, n < 16 → hexVal (hexDigit n) = n := by decide

private theorem hexVal4_hex4 (c : Nat) (h : c < 65536) :
    hexVal4 (hexDigit (c / 4096 % 16)) (hexDigit (c / 256 % 16)) (hexDigit (c / 16 % 16)) (hexDigit (c % 16)) = c := by
  simp only [hexVal4, fun n => hexVal_hexDigit (n % 16) (Nat.mod_lt n (by decide))]
  omega

private theorem unescUnits_escChar (c : Nat) (t : Text) : unescUnits (escChar c ++ t) = c :: unescUnits t := by
  rcases escChar_cases c with ⟨e, hp, he⟩ | ⟨hc, he⟩ | ⟨h92, -, -, he⟩ <;> rw [he]
  · obtain ⟨-, hs, h117, -⟩ := shortEscapes_spec _ hp
    exact (unescUnits_short e t h117).trans (by rw [hs])
  · exact (unescUnits_u _ _ _ _ t).trans (by rw [hexVal4_hex4 c hc])
  · exact unescUnits_plain c t h92

private theorem unescUnits_escape (s : Text) : unescUnits (escape s) = s := by
  induction s with
  | nil => rfl
  | cons c s ih => simp [escape, unescUnits_escChar, ih]

/-- a Unicode scalar value: a code point that is not a surrogate -/
def validScalar (c : Nat) : Prop := c < 55296 ∨ (57344 ≤ c ∧ c < 1114112)

private theorem combine_valid (s : Text) (h : ∀ c ∈ s, validScalar c) : combine s = s := by
  induction s with
  | nil => rfl
  | cons c s ih =>
    rw [List.forall_mem_cons] at h
    have hc : isHigh c = false ∧ isLow c = false := by
      have := h.1
      unfold validScalar at this
      simp only [isHigh, isLow, Bool.and_eq_false_iff, decide_eq_false_iff_not]
      omega
    cases s with
    | nil => simp [combine, fixLone, hc]
    | cons d s => simp [combine, fixLone, hc, ih h.2]

/-- **string fidelity**: every string of Unicode scalar values — empty, CR/LF, U+2028/2029, controls, quotes, `<>&`,
    non-BMP, of any length — is what a JSON decoder reads back from what `json.Marshal` wrote -/
theorem C02_string_fidelity (s : Text) (h : ∀ c ∈ s, validScalar c) : unescape (escape s) = s := by
  simp [unescape, unescUnits_escape, combine_valid s h]

/-- neither LF nor CR -/
def Safe (t : Text) : Prop := ∀ x ∈ t, x ≠ 10 ∧ x ≠ 13

/-- no line terminator inside -/
def NoNL (l : Text) : Prop := 10 ∉ l ∧ 13 ∉ l

private theorem noNL_of_safe {t : Text} (h : Safe t) : NoNL t :=
  ⟨fun m => (h 10 m).1 rfl, fun m => (h 13 m).2 rfl⟩

@[simp] private theorem Safe_nil : Safe [] := fun _ h => nomatch h

@[simp] private theorem Safe_cons {c : Nat} {t : Text} : Safe (c :: t) ↔ (c ≠ 10 ∧ c ≠ 13) ∧ Safe t :=
  List.forall_mem_cons

@[simp] private theorem Safe_append {a b : Text} : Safe (a ++ b) ↔ Safe a ∧ Safe b := List.forall_mem_append

private theorem hexDigit_safe (n : Nat) : hexDigit n ≠ 10 ∧ hexDigit n ≠ 13 := by
  unfold hexDigit; split <;> omega

private theorem escChar_safe (c : Nat) : Safe (escChar c) := by
  rcases escChar_cases c with ⟨e, hp, he⟩ | ⟨-, he⟩ | ⟨-, h10, h13, he⟩ <;> rw [he]
  · simp [(shortEscapes_spec _ hp).2.2.2]
  · simp [hex4, hexDigit_safe]
  · simp [h10, h13]

private theorem Safe_escape : ∀ s : Text, Safe (escape s)
  | [] => Safe_nil
  | c :: s => Safe_append.2 ⟨escChar_safe c, Safe_escape s⟩

/-- **no raw line break**: an escaped string contains neither LF nor CR, whatever the string -/
theorem C02_no_raw_newline (s : Text) : 10 ∉ escape s ∧ 13 ∉ escape s :=
  noNL_of_safe (Safe_escape s)

example : escape t!"a\n\r\"\\<\u2028" = t!"a\\n\\r\\\"\\\\\\u003c\\u2028" := by decide
example : unescape t!"\\ud83d\\ude00\\u00e9" = [128512, 233] := by decide

/-! ## a whole message is one line -/

private theorem natDigits_safe (n : Nat) : Safe (natDigits n) := fun x hx => by
  have := natDigits_chars n x hx
  omega

private theorem intText_safe (i : Int) : Safe (intText i) := by
  cases i <;> simp [intText, natDigits_safe]

private theorem padDigits_safe (n : Nat) (t : Text) (h : Safe t) : Safe (padDigits n t) := by
  induction n generalizing t with
  | zero => exact h
  | succ n ih =>
    simp only [padDigits]
    split
    · exact ih _ (by simp [h])
    · exact h

private theorem decText_safe (m : Int) (e : Nat) : Safe (decText m e) := by
  simp only [decText, Safe_append, natDigits_safe, padDigits_safe]
  split <;> simp

private theorem sep_safe (p : Prop) [Decidable p] : Safe (if p then [] else [44]) := by
  split <;> simp

mutual
private theorem render_safe : ∀ j : Json, Safe (render j)
  | .null => by simp [render]
  | .bool true => by simp [render]
  | .bool false => by simp [render]
  | .int i => intText_safe i
  | .dec m e => decText_safe m e
  | .str s => by simp [render, Safe_escape]
  | .arr xs => by simp [render, renderList_safe xs]
  | .obj kvs => by simp [render, renderFields_safe kvs]
private theorem renderList_safe : ∀ xs : List Json, Safe (renderList xs)
  | [] => by simp [renderList]
  | x :: rest => by simp [renderList, render_safe x, sep_safe, renderList_safe rest]
private theorem renderFields_safe : ∀ kvs : List (Text × Json), Safe (renderFields kvs)
  | [] => by simp [renderFields]
  | (k, v) :: rest => by simp [renderFields, Safe_escape, render_safe v, sep_safe, renderFields_safe rest]
end

/-- **a JSON message is one line**: the compact text `json.Marshal` prints for any value — any nesting, any strings —
    contains no raw LF or CR, so it is one stdio line and one SSE `data:` line -/
theorem C02_message_is_one_line (j : Json) : 10 ∉ render j ∧ 13 ∉ render j :=
  noNL_of_safe (render_safe j)

/-! ## SSE framing -/

private theorem cut_line (l s : Text) (hl : NoNL l) :
    cutLines (l ++ 10 :: s) = (l :: (cutLines s).1, (cutLines s).2) := by
  induction l with
  | nil => simp [cutLines]
  | cons c l ih =>
    obtain ⟨⟨h10, hl10⟩, h13, hl13⟩ : (10 ≠ c ∧ 10 ∉ l) ∧ 13 ≠ c ∧ 13 ∉ l := by simpa [NoNL, not_or] using hl
    simp [cutLines, h10.symm, h13.symm, ih ⟨hl10, hl13⟩]

private theorem NoNL_append {a b : Text} (ha : NoNL a) (hb : NoNL b) : NoNL (a ++ b) :=
  ⟨fun h => (List.mem_append.1 h).elim ha.1 hb.1, fun h => (List.mem_append.1 h).elim ha.2 hb.2⟩

private theorem run_line (l rest : Text) (hl : NoNL l) (st : PS) :
    (cutLines (l ++ 10 :: rest)).1.foldl stepLine st = (cutLines rest).1.foldl stepLine (stepLine st l) := by
  rw [cut_line l rest hl, List.foldl_cons]

private theorem step_data (st : PS) (l : Text) :
    stepLine st (t!"data: " ++ l) = { st with data := l :: st.data } := by
  simp [stepLine, field]

private theorem step_id (st : PS) (id : Text) (h0 : 0 ∉ id) :
    stepLine st (t!"id: " ++ id) = { st with lastId := id } := by
  simp [stepLine, field, h0]

private theorem step_event (st : PS) (ev : Text) :
    stepLine st (t!"event: " ++ ev) = st := by
  simp [stepLine, field]

private theorem run_dataLines (ls : List Text) (h : ∀ l ∈ ls, NoNL l) (rest : Text) (st : PS) :
    (cutLines (dataLines t!"data: " ls ++ rest)).1.foldl stepLine st =
      (cutLines rest).1.foldl stepLine { st with data := ls.reverse ++ st.data } := by
  induction ls generalizing st with
  | nil => simp [dataLines]
  | cons l ls ih =>
    rw [List.forall_mem_cons] at h
    have : dataLines t!"data: " (l :: ls) ++ rest = (t!"data: " ++ l) ++ 10 :: (dataLines t!"data: " ls ++ rest) := by
      simp [dataLines]
    rw [this, run_line _ _ (NoNL_append (by simp [NoNL]) h.1), step_data, ih h.2]
    simp

/-- what one event block — a header line, the data split into `data:` lines, a blank line — followed by anything does
    to the reader's state (`st'` is the state after the header line) -/
private theorem run_block (hdr d rest : Text) (hhdr : NoNL hdr) (hcr : 13 ∉ d) (st st' : PS)
    (hst : stepLine st hdr = st') (hd : st'.data = []) :
    (cutLines (hdr ++ 10 :: (dataLines t!"data: " (splitOn 10 d) ++ 10 :: rest))).1.foldl stepLine st =
      (cutLines rest).1.foldl stepLine { st' with data := [], events := (st'.lastId, d) :: st'.events } := by
  have hp := splitOn_pieces 10 d
  rw [run_line _ _ hhdr, hst, run_dataLines _ fun l hl => ⟨(hp l hl).1, fun h => hcr ((hp l hl).2 h)⟩]
  -- the blank line dispatches what the `data:` lines have put into the buffer
  simp [cutLines, stepLine, hd, splitOn_ne_nil, joinLF_splitOn]

/-! ### a whole stream of events (any number, one after the other on the same connection) -/

private theorem run_writeEvent (id data rest : Text) (hid : NoNL id) (h0 : 0 ∉ id) (hne : data ≠ []) (hcr : 13 ∉ data)
    (st : PS) (hd : st.data = []) :
    (cutLines (writeEvent id data ++ rest)).1.foldl stepLine st =
      (cutLines rest).1.foldl stepLine
        { st with lastId := id, data := [], events := (id, trimSuffixLF data) :: st.events } := by
  have hw : writeEvent id data ++ rest =
      (t!"id: " ++ id) ++ 10 :: (dataLines t!"data: " (splitOn 10 (trimSuffixLF data)) ++ (10 :: rest)) := by
    simp [writeEvent, hne]
  rw [hw, run_block _ _ _ (NoNL_append (by simp [NoNL]) hid) (fun h => hcr (trimSuffixLF_subset _ h)) st _ (step_id _ id h0) hd]

/-- a well-formed event: id without NUL / line breaks, non-empty data without CR -/
def GoodEvent (e : Text × Text) : Prop := NoNL e.1 ∧ 0 ∉ e.1 ∧ e.2 ≠ [] ∧ 13 ∉ e.2

private theorem run_stream (es : List (Text × Text)) (h : ∀ e ∈ es, GoodEvent e) :
    ∀ st : PS, st.data = [] →
      ((cutLines ((es.map (fun e => writeEvent e.1 e.2)).flatten)).1.foldl stepLine st).events =
        (es.map (fun e => (e.1, trimSuffixLF e.2))).reverse ++ st.events := by
  induction es with
  | nil => intro st _; simp [cutLines]
  | cons e es ih =>
    intro st hd
    obtain ⟨⟨g1, g2, g3, g4⟩, hes⟩ := List.forall_mem_cons.1 h
    simp only [List.map_cons, List.flatten_cons]
    rw [run_writeEvent e.1 e.2 _ g1 g2 g3 g4 st hd, ih hes _ rfl]
    simp

/-- **A stream of events is read back event by event**: whatever number of events `WriteEvent` puts on one connection,
    one after the other, a reader that follows the WHATWG rules dispatches exactly those events, in that order, each with
    its own id and its own data (minus one trailing LF) — no event swallows, splits or borrows from its neighbours. -/
theorem C02_sse_stream_transparent (es : List (Text × Text)) (h : ∀ e ∈ es, GoodEvent e) :
    parseSSE ((es.map (fun e => writeEvent e.1 e.2)).flatten) = es.map (fun e => (e.1, trimSuffixLF e.2)) := by
  simp only [parseSSE]
  rw [run_stream es h _ rfl]
  simp

-- non-vacuity: two events, the second with a line break inside its data
example : parseSSE ((([(t!"1", t!"{}"), (t!"2", t!"a\nb")] : List (Text × Text)).map
    (fun e => writeEvent e.1 e.2)).flatten) = [(t!"1", t!"{}"), (t!"2", t!"a\nb")] := by decide

/-- **SSE transparency of `WriteEvent`**: for an event id without NUL / line breaks and non-empty data without CR, a
    reader that follows the WHATWG rules dispatches exactly one event, with that id, whose data is the data handed to
    `WriteEvent` minus one trailing LF — however many LFs the data contains. -/
theorem C02_sse_transparent (id data : Text) (hid : NoNL id) (h0 : 0 ∉ id) (hne : data ≠ []) (hcr : 13 ∉ data) :
    parseSSE (writeEvent id data) = [(id, trimSuffixLF data)] := by
  simpa using C02_sse_stream_transparent [(id, data)] (by simp [GoodEvent, hid, h0, hne, hcr])

/-- with no line break in the data (every `json.Marshal` output, by `C02_message_is_one_line`) the event is one `data:` line -/
theorem C02_sse_single_line (id data : Text) (hne : data ≠ []) (hlf : 10 ∉ data) :
    writeEvent id data = t!"id: " ++ id ++ [10] ++ t!"data: " ++ data ++ [10, 10] := by
  simp [writeEvent, hne, trimSuffixLF_of_noLF data hlf, splitOn_of_not_mem 10 data hlf, dataLines]

private theorem render_ne_nil (j : Json) : render j ≠ [] := by
  cases j with
  | bool b => cases b <;> simp [render]
  | int i => cases i <;> simp [render, intText, natDigits_ne_nil]
  | dec m e => simp [render, decText]
  | _ => simp [render]

/-- **a message over SSE**: the JSON text of any value, written by `WriteEvent`, is dispatched by a conforming reader as
    one event carrying exactly that text -/
theorem C02_message_over_sse (id : Text) (j : Json) (hid : NoNL id) (h0 : 0 ∉ id) :
    parseSSE (writeEvent id (render j)) = [(id, render j)] := by
  have h := C02_message_is_one_line j
  rw [C02_sse_transparent id (render j) hid h0 (render_ne_nil j) h.2, trimSuffixLF_of_noLF _ h.1]

/-- Any number of JSON messages written as SSE events on one stream: a WHATWG-conforming reader dispatches exactly those
    messages, in order, each with its id and with the rendering of the message, byte for byte, as its data. -/
theorem C02_messages_over_sse_stream (ms : List (Text × Json)) (hid : ∀ m ∈ ms, NoNL m.1 ∧ 0 ∉ m.1) :
    parseSSE ((ms.map (fun m => writeEvent m.1 (render m.2))).flatten) = ms.map (fun m => (m.1, render m.2)) := by
  have h := C02_sse_stream_transparent (ms.map fun m => (m.1, render m.2)) (by
    intro e he
    obtain ⟨m, hm, rfl⟩ := List.mem_map.1 he
    exact ⟨(hid m hm).1, (hid m hm).2, render_ne_nil m.2, (C02_message_is_one_line m.2).2⟩)
  simpa [Function.comp_def, trimSuffixLF_of_noLF _ (C02_message_is_one_line _).1] using h

/-! ### the legacy server's stream: events and keep-alive comments in any order -/

/-- what the legacy SSE server writes on a connection: an event (`formatSSEEvent`) or the keep-alive comment of the
    ticker (`fmt.Fprint(w, ": keepalive\n\n")`) -/
inductive LegacyItem where
  | event (ev data : Text)
  | keepalive

def LegacyItem.bytes : LegacyItem → Text
  | .event ev data => formatSSEEvent ev data
  | .keepalive => t!": keepalive\n\n"

def LegacyItem.good : LegacyItem → Prop
  | .event ev data => NoNL ev ∧ ev ≠ [] ∧ data ≠ [] ∧ 13 ∉ data
  | .keepalive => True

def LegacyItem.payload : LegacyItem → List (Text × Text)
  | .event _ data => [([], data)]
  | .keepalive => []

private theorem run_formatEvent (ev data rest : Text) (hev : NoNL ev) (hevne : ev ≠ []) (hne : data ≠ []) (hcr : 13 ∉ data)
    (st : PS) (hd : st.data = []) :
    (cutLines (formatSSEEvent ev data ++ rest)).1.foldl stepLine st =
      (cutLines rest).1.foldl stepLine { st with data := [], events := (st.lastId, data) :: st.events } := by
  have hw : formatSSEEvent ev data ++ rest =
      (t!"event: " ++ ev) ++ 10 :: (dataLines t!"data: " (splitOn 10 data) ++ (10 :: rest)) := by
    simp only [formatSSEEvent, hevne, hne]
    rw [← replaceLF_dataLines]
    simp [List.append_assoc]
  rw [hw, run_block _ _ _ (NoNL_append (by simp [NoNL]) hev) hcr st _ (step_event _ ev) hd]

private theorem run_keepalive (rest : Text) (st : PS) (hd : st.data = []) :
    (cutLines (t!": keepalive\n\n" ++ rest)).1.foldl stepLine st = (cutLines rest).1.foldl stepLine st := by
  have h1 : t!": keepalive\n\n" ++ rest = t!": keepalive" ++ 10 :: ([] ++ 10 :: rest) := by simp
  rw [h1, cut_line _ _ (by simp [NoNL]), cut_line _ _ (by simp [NoNL])]
  simp [stepLine, hd]

private theorem run_legacy (items : List LegacyItem) (h : ∀ i ∈ items, i.good) :
    ∀ st : PS, st.data = [] → st.lastId = [] →
      ((cutLines ((items.map LegacyItem.bytes).flatten)).1.foldl stepLine st).events =
        ((items.map LegacyItem.payload).flatten).reverse ++ st.events := by
  induction items with
  | nil => intro st _ _; simp [cutLines]
  | cons i items ih =>
    intro st hd hl
    obtain ⟨hi, hitems⟩ := List.forall_mem_cons.1 h
    simp only [List.map_cons, List.flatten_cons]
    cases i with
    | event ev data =>
      obtain ⟨g1, g2, g3, g4⟩ := hi
      rw [LegacyItem.bytes, run_formatEvent ev data _ g1 g2 g3 g4 st hd,
        ih hitems { st with data := [], events := (st.lastId, data) :: st.events } rfl hl]
      simp [LegacyItem.payload, hl]
    | keepalive =>
      rw [LegacyItem.bytes, run_keepalive _ st hd, ih hitems st hd hl]
      simp [LegacyItem.payload]

/-- **The legacy stream is read back event by event, keep-alives and all**: whatever sequence of events and keep-alive
    comments the legacy SSE server writes on one connection, a WHATWG reader dispatches exactly the events' data, in order;
    a keep-alive comment between, before or after events yields nothing and disturbs no neighbour. -/
theorem C02_legacy_stream_transparent (items : List LegacyItem) (h : ∀ i ∈ items, i.good) :
    parseSSE ((items.map LegacyItem.bytes).flatten) = (items.map LegacyItem.payload).flatten := by
  simp only [parseSSE]
  rw [run_legacy items h _ rfl rfl]
  simp

-- non-vacuity: keep-alive, event, keep-alive, keep-alive, event with a line break in its data
example : parseSSE (([LegacyItem.keepalive, .event t!"message" t!"{}", .keepalive, .keepalive,
      .event t!"message" t!"a\nb"].map LegacyItem.bytes).flatten) = [([], t!"{}"), ([], t!"a\nb")] := by decide

/-- **SSE transparency of the legacy server's `formatSSEEvent`**: the data comes back unchanged (no CR in it) -/
theorem C02_sse_format_transparent (ev data : Text) (hev : NoNL ev) (hevne : ev ≠ []) (hne : data ≠ []) (hcr : 13 ∉ data) :
    parseSSE (formatSSEEvent ev data) = [([], data)] := by
  simpa [LegacyItem.bytes, LegacyItem.payload] using
    C02_legacy_stream_transparent [.event ev data] (by simp [LegacyItem.good, hev, hevne, hne, hcr])

/-! ## the library's own POST-SSE reader -/

/-- **the client reads back what the server wrote**: for data that is one line and starts and ends with a non-space
    character (any JSON object text), the per-line reader of `handleSSEResponse` hands exactly that text — once — to the
    JSON decoder -/
theorem C02_client_reads_back (id data : Text) (hid : 10 ∉ id) (hlf : 10 ∉ data)
    (a : Nat) (r : Text) (hfirst : data = a :: r) (ha : isSpace a = false)
    (q : Text) (b : Nat) (hlast : data = q ++ [b]) (hb : isSpace b = false) :
    clientDataLines (writeEvent id data) = [data] := by
  have hne : data ≠ [] := by rw [hfirst]; simp
  -- the pieces: the id line, the data line, the blank line, and the empty rest that `dropLast` takes off
  have hs : splitOn 10 (writeEvent id data) = [t!"id: " ++ id, t!"data: " ++ data, [], []] := by
    have e : writeEvent id data = (t!"id: " ++ id) ++ 10 :: ((t!"data: " ++ data) ++ 10 :: ([] ++ 10 :: [])) := by
      simp [C02_sse_single_line id data hne hlf]
    rw [e, splitOn_append_sep, splitOn_append_sep, splitOn_append_sep, splitOn_of_not_mem 10 _ (by simp [hid]),
      splitOn_of_not_mem 10 _ (by simp [hlf])]
    rfl
  -- `TrimSpace` may shorten the id line from the right, but not beyond its colon
  have h1 : trimSpace (t!"id: " ++ id) = t!"id:" ++ (trimLeft (id.reverse ++ [32])).reverse := by
    have e : (t!"id: " ++ id).reverse = (id.reverse ++ [32]) ++ 58 :: [100, 105] := by simp
    rw [trimSpace, show trimLeft (t!"id: " ++ id) = t!"id: " ++ id from rfl, e, trimLeft_append _ _ _ (by decide)]
    simp
  have h2 : trimSpace (t!"data: " ++ data) = t!"data: " ++ data :=
    trimSpace_id rfl (by decide) (by rw [hlast, ← List.append_assoc]) hb
  -- what is left of the data line after `data:`: the leading space goes by computation (`trimLeft (32 :: s)` is `trimLeft s`)
  have h3 : trimSpace (32 :: data) = data := trimSpace_id hfirst ha hlast hb
  simp only [clientDataLines, hs, List.dropLast, List.map, h1, h2, show trimSpace [] = [] from rfl]
  simp [hasPrefix, h3]

/-- … in particular every JSON object (every JSON-RPC message) written by `WriteEvent` -/
theorem C02_client_reads_message (id : Text) (kvs : Obj) (hid : 10 ∉ id) :
    clientDataLines (writeEvent id (render (.obj kvs))) = [render (.obj kvs)] := by
  have h := C02_message_is_one_line (.obj kvs)
  refine C02_client_reads_back id _ hid h.1 123 (renderFields kvs ++ [125]) (by simp [render]) (by decide)
    (123 :: renderFields kvs) 125 (by simp [render]) (by decide)

example : parseSSE (writeEvent t!"evt-1-1" t!"{\"a\":\"x\"}\n") = [(t!"evt-1-1", t!"{\"a\":\"x\"}")] := by decide
example : parseSSE (writeEvent t!"e" t!"a\n\nb") = [(t!"e", t!"a\n\nb")] := by decide

end Mcp.Props.C02
