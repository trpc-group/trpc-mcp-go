/-
  C18 — Generated schemas describe what encoding/json really produces and accepts.

  The full statement (`Mcp.Schema.SoundFor`, one instance per generation style) is FALSE of the code as it is:
  `C18_sound_refuted_*` below, with one kernel-checked `…_counterexample` per construct the generators get wrong
  ([]byte, time.Time, embedded structs, `,string`, interface fields, unescaped `$ref` path segments, `json:"-,"`,
  the depth limit of the inline mode, nil pointers of recursive types). Proved: soundness, field names and — for the
  `$defs` style — reference resolution on the fragment without these constructs, for every type and every fully
  populated value (`C18_sound_partial`, `C18_field_names`, `C18_refs_resolve`), and the argument-binding round trip.
  `jsonschema` tags (`Mcp.Model.SchemaTags`: the tag parser that exists, both formats, with its oddities): whatever the
  tags say, no field disappears (`C18_field_names_any_jsonschema_tag`); the directive splitter never yields an empty
  directive (`C18_directives_nonempty`); the parser is a family over the regenerated facts "tag numbers go through a
  finiteness check": where they do — today's source, `C18_tag_numbers_finite_checked` — every tag yields keywords
  encoding/json can print (`C18_tags_serialisable`); where they do not (the code before 068180d) `minimum=NaN` /
  `maximum=Inf` make the schema unserialisable (`C18_tag_nonfinite_witness`).
  Registration histories (`Mcp.Model.SchemaRegistry`): the registry holds, for every name, the descriptor registered last,
  whole (`C18_registry_holds_last_registered`; a merging registry does not: `C18_registry_merge_witness`).
  Termination of the three generators is Lean's own termination check of their transcriptions in `Mcp.Model.Schema`
  (structural recursion on the type, fuel only for unfolding a named type; no `partial`).
-/
import Mcp.Model.Schema
import Mcp.Model.SchemaTags
import Mcp.Model.SchemaRegistry
namespace Mcp.Props.C18
open Mcp.Str Mcp.Schema

private theorem nodup_cons (x : Text) (xs : List Text) : nodup (x :: xs) = true ↔ x ∉ xs ∧ nodup xs = true := by
  simp [nodup]

private theorem hasKey_iff (k : Text) (kvs : List (Text × Json)) : hasKey k kvs = true ↔ k ∈ kvs.map (·.1) := by
  induction kvs with
  | nil => simp [hasKey]
  | cons kv r ih => simp [hasKey, ih, eq_comm (a := k)]

private theorem lookup_cons_ite {β : Type} (n k : Text) (v : β) (r : List (Text × β)) :
    ((k, v) :: r).lookup n = if k = n then some v else r.lookup n := by
  by_cases h : k = n
  · simp [h]
  · simp [List.lookup_cons, beq_false_of_ne (Ne.symm h), h]

private theorem lookup_of_mem {β : Type} {kvs : List (Text × β)} {k : Text} {v : β}
    (hn : nodup (kvs.map (·.1)) = true) (hm : (k, v) ∈ kvs) : kvs.lookup k = some v := by
  induction kvs with
  | nil => cases hm
  | cons p ps ih =>
    obtain ⟨n, w⟩ := p
    simp only [List.map_cons, nodup_cons] at hn
    rw [lookup_cons_ite]
    rcases List.mem_cons.mp hm with h | h
    · cases h; exact if_pos rfl
    · rw [if_neg (fun e : n = k => hn.1 (e ▸ List.mem_map_of_mem h)), ih hn.2 h]

private theorem lookup_regSet {α : Type} (name n : Text) (d : α) (reg : List (Text × α)) :
    (regSet name d reg).lookup n = if name = n then some d else reg.lookup n := by
  induction reg with
  | nil => simp [regSet, lookup_cons_ite]
  | cons kv r ih =>
    obtain ⟨k, v⟩ := kv
    by_cases hk : k = name
    · subst hk
      simp only [regSet, beq_self_eq_true, if_true, lookup_cons_ite]
      split <;> rfl
    · simp only [regSet, beq_false_of_ne hk, Bool.false_eq_true, if_false, lookup_cons_ite, ih]
      by_cases hn : k = n
      · subst hn; simp [Ne.symm hk]
      · simp [hn]

private theorem lookup_regErase {α : Type} (name n : Text) (reg : List (Text × α)) :
    (regErase name reg).lookup n = if name = n then none else reg.lookup n := by
  induction reg with
  | nil => simp [regErase]
  | cons kv r ih =>
    obtain ⟨k, v⟩ := kv
    by_cases hk : k = name
    · subst hk
      simp only [regErase, beq_self_eq_true, if_true, lookup_cons_ite, ih]
      split <;> rfl
    · simp only [regErase, beq_false_of_ne hk, Bool.false_eq_true, if_false, lookup_cons_ite, ih]
      by_cases hn : k = n
      · subst hn; simp [Ne.symm hk]
      · simp [hn]

private theorem vProp_eq_lookup (onRef : Text → Json → Bool) (props : List (Text × Sch)) (k : Text) (j : Json) :
    vProp onRef props k j = (props.lookup k).map (vGo onRef · j) := by
  induction props with
  | nil => rfl
  | cons p ps ih =>
    obtain ⟨n, s⟩ := p
    simp only [vProp, lookup_cons_ite, ih, beq_iff_eq]
    split <;> rfl

private theorem tagName_nil : tagName [] = [] := by rfl
private theorem tagName_dash : tagName t!"-" = t!"-" := by rfl

private theorem legacyName_eq (m : FieldMeta) : legacyName m = jsonName m := by
  unfold legacyName jsonName
  by_cases h : m.jsonTag = []
  · simp [h, tagName_nil]
  · simp [h]

private theorem metaOk_iff (m : FieldMeta) : metaOk m = true ↔
    m.embedded = false ∧ jsonString m = false ∧ m.goName ≠ [] ∧ m.goName ≠ t!"-" ∧
      (tagName m.jsonTag ≠ t!"-" ∨ m.jsonTag = t!"-") := by
  simp [metaOk, and_assoc]

private theorem legacySkip_eq {m : FieldMeta} (h : metaOk m = true) : legacySkip m = jsonSkip m := by
  obtain ⟨_, _, hg, hd, ht⟩ := (metaOk_iff m).mp h
  simp only [legacySkip, legacyName_eq, jsonName, jsonSkip]
  by_cases e : m.jsonTag = t!"-"
  · simp [e, tagName_dash]
  · -- otherwise the name, from the tag or the Go name, is neither empty nor `-`
    have ht := ht.resolve_right e
    rw [beq_false_of_ne e]
    by_cases hn : tagName m.jsonTag = [] <;> simp [hn, hg, hd, ht]

private theorem promotes_false {m : FieldMeta} (h : metaOk m = true) : promotes m = false := by
  simp [promotes, ((metaOk_iff m).mp h).1]

private theorem quoted_false {m : FieldMeta} (t : GoType) (h : metaOk m = true) : quotedFor m t = false := by
  simp [quotedFor, ((metaOk_iff m).mp h).2.1]

private theorem fragFields_cons {m : FieldMeta} {t : GoType} {fs : Fields} :
    fragFields ((m, t) :: fs) = true ↔ metaOk m = true ∧ frag t = true ∧ fragFields fs = true := by
  simp [fragFields, and_assoc]

/-- a fully populated value is no empty value (nothing for `omitempty` to drop) and has the canonical form of its type -/
private theorem populated_cases {env : Env} {v : GoVal} {T : GoType} (h : populated env v T = true) :
    isEmptyVal v = false ∧
    match (generalizing := false) T with
    | .str => ∃ s, v = .str s
    | .int _ => ∃ i, v = .int i
    | .float _ => ∃ m x, v = .float m x
    | .bool => v = .bool true
    | .ptr e => ∃ w, v = .ptr w ∧ populated env w e = true
    | .slice e | .array _ e => ∃ vs, v = .list vs ∧ populatedList env vs e = true
    | .map e => ∃ kvs, v = .map kvs ∧ populatedMap env kvs e = true
    | .struct fs => ∃ vs, v = .struct vs ∧ populatedFields env vs fs = true
    | _ => True := by
  unfold populated at h
  -- one case for each equation of `populated`: the hypothesis is brought to the form of the value, which then decides the goal
  split at h <;> simp [isEmptyVal] at h ⊢ <;> simp [h]

private theorem jsonFieldNames_cons {m : FieldMeta} {t : GoType} {fs : Fields} (hm : metaOk m = true) :
    jsonFieldNames ((m, t) :: fs) = if jsonSkip m then jsonFieldNames fs else jsonName m :: jsonFieldNames fs := by
  simp only [jsonFieldNames, promotes_false hm, Bool.false_eq_true, if_false]

private theorem inlineProps_cons {m : FieldMeta} {t : GoType} {fs : Fields} (hm : metaOk m = true) :
    inlineProps ((m, t) :: fs) = if jsonSkip m then inlineProps fs else (jsonName m, genInline t) :: inlineProps fs := by
  simp only [inlineProps, legacySkip_eq hm, legacyName_eq]

private theorem encFields_cons {env : Env} {m : FieldMeta} {t : GoType} {v : GoVal} {vs : List GoVal} {fs : Fields}
    (hm : metaOk m = true) (hp : populated env v t = true) :
    encFields env (v :: vs) ((m, t) :: fs) =
      if jsonSkip m then encFields env vs fs else (jsonName m, enc env v t false) :: encFields env vs fs := by
  simp only [encFields, promotes_false hm, (populated_cases hp).1, Bool.and_false, quoted_false t hm,
    Bool.false_eq_true, if_false]

private theorem populatedFields_cons {env : Env} {vs : List GoVal} {m : FieldMeta} {t : GoType} {fs : Fields}
    (h : populatedFields env vs ((m, t) :: fs) = true) :
    ∃ v ws, vs = v :: ws ∧ populated env v t = true ∧ populatedFields env ws fs = true := by
  cases vs with
  | nil => simp [populatedFields] at h
  | cons v ws => exact ⟨v, ws, rfl, by simpa [populatedFields] using h⟩

private theorem inlineProps_names (fs : Fields) (h : fragFields fs = true) :
    (inlineProps fs).map (·.1) = jsonFieldNames fs := by
  induction fs with
  | nil => rfl
  | cons f fs ih =>
    obtain ⟨m, t⟩ := f
    obtain ⟨hm, _, hfs⟩ := fragFields_cons.mp h
    rw [inlineProps_cons hm, jsonFieldNames_cons hm]
    split <;> simp [ih hfs]

private theorem inlineReq_sublist : (fs : Fields) → (inlineReq fs).Sublist ((inlineProps fs).map (·.1))
  | [] => .slnil
  | (m, t) :: fs => by
    have ih := inlineReq_sublist fs
    simp only [inlineReq, inlineProps]
    split
    · exact ih
    · split
      · exact ih.cons_cons _
      · exact ih.cons _

private theorem encFields_keys (env : Env) (fs : Fields) : ∀ (vs : List GoVal), fragFields fs = true → populatedFields env vs fs = true →
    (encFields env vs fs).map (·.1) = jsonFieldNames fs := by
  induction fs with
  | nil => intro vs _ hp; cases vs <;> simp_all [encFields, jsonFieldNames, populatedFields]
  | cons f fs ih =>
    obtain ⟨m, t⟩ := f
    intro vs h hp
    obtain ⟨hm, _, hfs⟩ := fragFields_cons.mp h
    obtain ⟨v, ws, rfl, hv, hws⟩ := populatedFields_cons hp
    rw [encFields_cons hm hv, jsonFieldNames_cons hm]
    split <;> simp [ih ws hfs hws]

private theorem all_encList {env : Env} {e : GoType} {P : Json → Bool}
    (h : ∀ v, populated env v e = true → P (enc env v e false) = true) :
    ∀ vs, populatedList env vs e = true → (encList env vs e).all P = true
  | [], _ => rfl
  | v :: vs, hp => by
    simp only [populatedList, Bool.and_eq_true] at hp
    simp only [encList, List.all_cons, Bool.and_eq_true]
    exact ⟨h v hp.1, all_encList h vs hp.2⟩

private theorem all_encMap {env : Env} {e : GoType} {P : Json → Bool}
    (h : ∀ v, populated env v e = true → P (enc env v e false) = true) :
    ∀ kvs, populatedMap env kvs e = true → (encMap env kvs e).all (fun kv => P kv.2) = true
  | [], _ => rfl
  | (k, v) :: kvs, hp => by
    simp only [populatedMap, Bool.and_eq_true] at hp
    simp only [encMap, List.all_cons, Bool.and_eq_true]
    exact ⟨h v hp.1, all_encMap h kvs hp.2⟩

private theorem vGo_obj (onRef : Text → Json → Bool) {props : List (Text × Sch)} {req : List Text} {closed : Bool}
    {kvs : List (Text × Json)} (hn : nodup (props.map (·.1)) = true)
    (hr : ∀ r ∈ req, r ∈ kvs.map (·.1))
    (hv : ∀ kv ∈ kvs, ∃ s, (kv.1, s) ∈ props ∧ vGo onRef s kv.2 = true) :
    vGo onRef (.obj props req closed) (.obj kvs) = true := by
  simp only [vGo, Bool.and_eq_true, List.all_eq_true]
  refine ⟨fun r h => (hasKey_iff r kvs).mpr (hr r h), fun kv hkv => ?_⟩
  obtain ⟨s, hs, hvs⟩ := hv kv hkv
  rw [vProp_eq_lookup, lookup_of_mem hn hs]
  exact hvs

mutual
private theorem sound (env : Env) (onRef : Text → Json → Bool) : (T : GoType) → (v : GoVal) → frag T = true → populated env v T = true →
    vGo onRef (genInline T) (enc env v T false) = true
  | .str, v, _, hp => by obtain ⟨s, rfl⟩ := (populated_cases hp).2; rfl
  | .int _, v, _, hp => by obtain ⟨i, rfl⟩ := (populated_cases hp).2; rfl
  | .float _, v, _, hp => by obtain ⟨m, x, rfl⟩ := (populated_cases hp).2; rfl
  | .bool, v, _, hp => by rw [(populated_cases hp).2]; rfl
  | .ptr e, v, hf, hp => by
    obtain ⟨w, rfl, hw⟩ := (populated_cases hp).2
    exact sound env onRef e w hf hw
  | .slice e, v, hf, hp | .array _ e, v, hf, hp => by
    obtain ⟨vs, rfl, hvs⟩ := (populated_cases hp).2
    exact all_encList (sound env onRef e · hf) vs hvs
  | .map e, v, hf, hp => by
    obtain ⟨kvs, rfl, hkvs⟩ := (populated_cases hp).2
    exact all_encMap (P := vGo onRef (genInline e)) (sound env onRef e · hf) kvs hkvs
  | .struct fs, v, hf, hp => by
    obtain ⟨vs, rfl, hvs⟩ := (populated_cases hp).2
    simp only [frag, Bool.and_eq_true] at hf
    have hn := inlineProps_names fs hf.1
    refine vGo_obj onRef (hn.symm ▸ hf.2) ?_ (soundFields env onRef fs vs hf.1 hvs)
    rw [encFields_keys env fs vs hf.1 hvs, ← hn]
    exact (inlineReq_sublist fs).subset
  | .bytes, _, hf, _ | .time, _, hf, _ | .iface, _, hf, _ | .named _, _, hf, _ => by simp [frag] at hf
private theorem soundFields (env : Env) (onRef : Text → Json → Bool) : (fs : Fields) → (vs : List GoVal) → fragFields fs = true → populatedFields env vs fs = true →
    ∀ kv ∈ encFields env vs fs, ∃ s, (kv.1, s) ∈ inlineProps fs ∧ vGo onRef s kv.2 = true
  | [], vs, _, _ => by cases vs <;> simp [encFields]
  | (m, t) :: fs, vs, hf, hp => by
    obtain ⟨hm, hft, hfs⟩ := fragFields_cons.mp hf
    obtain ⟨v, ws, rfl, hv, hws⟩ := populatedFields_cons hp
    rw [encFields_cons hm hv, inlineProps_cons hm]
    have ih := soundFields env onRef fs ws hfs hws
    split
    · exact ih
    · intro kv hkv
      rcases List.mem_cons.mp hkv with rfl | hkv
      · exact ⟨genInline t, List.mem_cons_self, sound env onRef t v hft hv⟩
      · obtain ⟨s, hs, hvs⟩ := ih kv hkv
        exact ⟨s, List.mem_cons_of_mem _ hs, hvs⟩
end

private theorem soundList (env : Env) (onRef : Text → Json → Bool) : (vs : List GoVal) → (e : GoType) → frag e = true → populatedList env vs e = true →
    (encList env vs e).all (fun x => vGo onRef (genInline e) x) = true :=
  fun vs e hf => all_encList (sound env onRef e · hf) vs

private theorem soundMap (env : Env) (onRef : Text → Json → Bool) : (kvs : List (Text × GoVal)) → (e : GoType) → frag e = true → populatedMap env kvs e = true →
    (encMap env kvs e).all (fun kv => vGo onRef (genInline e) kv.2) = true :=
  fun kvs e hf => all_encMap (P := vGo onRef (genInline e)) (sound env onRef e · hf) kvs

/-! ### $defs style: every reference resolves -/

private theorem lookupVisited_mem {vis : List (GoType × Text)} {t : GoType} {n : Text} (h : lookupVisited vis t = some n) :
    n ∈ vis.map (·.2) := by
  induction vis with
  | nil => simp [lookupVisited] at h
  | cons p r ih =>
    obtain ⟨k, m⟩ := p
    simp only [lookupVisited] at h
    split at h
    · cases h; simp
    · exact List.mem_cons.mpr (Or.inr (ih h))

/-- `g.defs[name] = s` and `m.tools[name] = d` are the same map assignment -/
private theorem setDef_eq_regSet (n : Text) (s : Sch) : ∀ defs, setDef n s defs = regSet n s defs
  | [] => rfl
  | (k, v) :: r => by simp only [setDef, regSet, setDef_eq_regSet n s r]

private theorem isSome_lookup_setDef {n m : Text} {s : Sch} {defs : List (Text × Sch)}
    (h : n = m ∨ (defs.lookup m).isSome = true) : ((setDef n s defs).lookup m).isSome = true := by
  rw [setDef_eq_regSet, lookup_regSet]
  split
  · rfl
  · exact h.resolve_left ‹_›

private theorem refs_setDef {n : Text} {s : Sch} {defs : List (Text × Sch)} {t : Text}
    (h : t ∈ refsOfProps (setDef n s defs)) : t ∈ refsOf s ∨ t ∈ refsOfProps defs := by
  induction defs with
  | nil => simpa [setDef, refsOfProps] using h
  | cons p r ih =>
    obtain ⟨k', v⟩ := p
    simp only [setDef] at h
    split at h <;> simp only [refsOfProps, List.mem_append] at h ⊢
    · exact h.imp_right Or.inr
    · rcases h with h | h
      · exact Or.inr (Or.inl h)
      · exact (ih h).imp_right Or.inr

/-- a reference to the `$defs` entry of a visited type -/
private def Known (st : DState) (t : Text) : Prop := ∃ n ∈ st.visited.map (·.2), t = t!"#/$defs/" ++ n

/-- every visited name needs no escaping inside a reference and has a `$defs` entry (a placeholder while its type is
    being generated), and every reference inside `$defs` points to the entry of a visited name -/
private structure Inv (st : DState) : Prop where
  entry : ∀ n ∈ st.visited.map (·.2), cleanName n = true ∧ (st.defs.lookup n).isSome = true
  refs : ∀ t ∈ refsOfProps st.defs, Known st t

/-- a generator step from state `st` to state `st'` whose schema contains the references `refs`: the invariant holds
    after it, no visited name is forgotten, and the references point to names visited by then -/
private structure Post (st : DState) (refs : List Text) (st' : DState) : Prop where
  inv : Inv st'
  mono : ∀ n ∈ st.visited.map (·.2), n ∈ st'.visited.map (·.2)
  known : ∀ t ∈ refs, Known st' t

/-- what `genD` asks of the expander of named types: from a state with the invariant, expanding a name is such a step -/
private def ExpOk (exp : Text → DState → Sch × DState) : Prop :=
  ∀ n st, Inv st → Post st (refsOf (exp n st).1) (exp n st).2

private theorem Known.mono {st st' : DState} {t : Text} (h : Known st t)
    (hv : ∀ n ∈ st.visited.map (·.2), n ∈ st'.visited.map (·.2)) : Known st' t :=
  let ⟨n, hn, e⟩ := h
  ⟨n, hv n hn, e⟩

private theorem known_defsRef {st : DState} {n : Text} (h : n ∈ st.visited.map (·.2)) :
    ∀ t ∈ refsOf (defsRef n), Known st t := by
  intro t ht
  simp only [defsRef, refsOf, List.mem_singleton] at ht
  exact ⟨n, h, ht⟩

private theorem post_refl (st : DState) (h : Inv st) : Post st [] st :=
  ⟨h, fun _ hn => hn, by simp⟩

/-- a type met before: a reference to its entry, the state as it was -/
private theorem post_hit {st : DState} {k : GoType} {n : Text} (h : Inv st) (hl : lookupVisited st.visited k = some n) :
    Post st (refsOf (defsRef n)) st :=
  ⟨h, fun _ hn => hn, known_defsRef (lookupVisited_mem hl)⟩

private theorem post_trans {st st1 st2 : DState} {r1 r2 : List Text}
    (a : Post st r1 st1) (b : Post st1 r2 st2) : Post st (r1 ++ r2) st2 := by
  refine ⟨b.inv, fun n hn => b.mono n (a.mono n hn), fun t ht => ?_⟩
  rcases List.mem_append.mp ht with ht | ht
  · exact (a.known t ht).mono b.mono
  · exact b.known t ht

/-- visiting a fresh type: mark, placeholder -/
private theorem inv_visit (st : DState) (k : GoType) (n : Text) (hc : cleanName n = true) (h : Inv st) :
    Inv ⟨(k, n) :: st.visited, setDef n (.obj [] [] false) st.defs⟩ := by
  refine ⟨fun m hm => ?_, fun t ht => ?_⟩
  · rcases List.mem_cons.mp hm with rfl | hm
    · exact ⟨hc, isSome_lookup_setDef (Or.inl rfl)⟩
    · exact ⟨(h.entry m hm).1, isSome_lookup_setDef (Or.inr (h.entry m hm).2)⟩
  · rcases refs_setDef ht with ht | ht
    · cases ht
    · exact (h.refs t ht).mono fun _ => List.mem_cons_of_mem _

/-- replacing the placeholder by the generated struct schema -/
private theorem inv_finish {st : DState} {n : Text} {props : List (Text × Sch)} {req : List Text}
    (h : Inv st) (hr : ∀ t ∈ refsOfProps props, Known st t) :
    Inv ⟨st.visited, setDef n (.obj props req false) st.defs⟩ := by
  refine ⟨fun m hm => ⟨(h.entry m hm).1, isSome_lookup_setDef (Or.inr (h.entry m hm).2)⟩, fun t ht => ?_⟩
  rcases refs_setDef ht with ht | ht
  · exact hr t ht
  · exact h.refs t ht

/-- a struct-kind type that is visited for the first time: the common part of anonymous and named structs -/
private theorem post_struct {st : DState} {k : GoType} {n : Text} {r : (List (Text × Sch) × List Text) × DState}
    (hr : Post ⟨(k, n) :: st.visited, setDef n (.obj [] [] false) st.defs⟩ (refsOfProps r.1.1) r.2) :
    Post st (refsOf (defsRef n)) ⟨r.2.visited, setDef n (.obj r.1.1 r.1.2 false) r.2.defs⟩ :=
  ⟨inv_finish hr.inv hr.known, fun m hm => hr.mono m (List.mem_cons_of_mem _ hm),
    known_defsRef (hr.mono n List.mem_cons_self)⟩

private theorem cleanName_iff (n : Text) : cleanName n = true ↔ 47 ∉ n ∧ 126 ∉ n ∧ 37 ∉ n := by
  simp [cleanName, and_assoc]

/-- `Type0x` and decimal digits -/
private theorem clean_anon (k : Nat) : cleanName (anonName k) = true := by
  have : ∀ c ∈ anonName k, c ≠ 47 ∧ c ≠ 126 ∧ c ≠ 37 := by
    intro c hc
    rcases List.mem_append.mp hc with hc | hc
    · exact (by decide : ∀ c ∈ t!"Type0x", c ≠ 47 ∧ c ≠ 126 ∧ c ≠ 37) c hc
    · have := natDigits_chars k c hc
      omega
  exact (cleanName_iff _).mpr ⟨fun h => (this 47 h).1 rfl, fun h => (this 126 h).2.1 rfl, fun h => (this 37 h).2.2 rfl⟩

mutual
private theorem genD_post (exp : Text → DState → Sch × DState) (hexp : ExpOk exp) :
    (T : GoType) → (st : DState) → Inv st → Post st (refsOf (genD exp T st).1) (genD exp T st).2
  | .named n, st, h => hexp n st h
  | .time, st, h => by
    simp only [genD]
    split
    · exact post_hit h ‹_›
    · exact ⟨inv_visit st .time _ (by decide) h, fun _ => List.mem_cons_of_mem _, known_defsRef List.mem_cons_self⟩
  | .struct fs, st, h => by
    simp only [genD]
    split
    · exact post_hit h ‹_›
    · exact post_struct (genDFields_post exp hexp fs _ (inv_visit st (.struct fs) (anonName st.visited.length) (clean_anon _) h))
  -- a pointer is its element; a container wraps the element's schema: the same references, the same state
  | .ptr e, st, h | .slice e, st, h | .array _ e, st, h | .map e, st, h => genD_post exp hexp e st h
  | .bytes, st, h | .str, st, h | .int _, st, h | .float _, st, h | .bool, st, h | .iface, st, h => post_refl st h
private theorem genDFields_post (exp : Text → DState → Sch × DState) (hexp : ExpOk exp) :
    (fs : Fields) → (st : DState) → Inv st → Post st (refsOfProps (genDFields exp fs st).1.1) (genDFields exp fs st).2
  | [], st, h => post_refl st h
  | (m, t) :: fs, st, h => by
    simp only [genDFields]
    split
    · exact genDFields_post exp hexp fs st h
    · have a := genD_post exp hexp t st h
      exact post_trans a (genDFields_post exp hexp fs _ a.inv)
end

private theorem clean_of_lookup {env : Env} {n : Text} {fs : Fields} (hc : cleanEnv env = true) (h : lookupEnv env n = some fs) :
    cleanName n = true := by
  obtain ⟨l₁, l₂, rfl, _⟩ := List.lookup_eq_some_iff.mp h
  exact List.all_eq_true.mp hc (n, fs) (by simp)

private theorem genDefsNamed_ok (env : Env) (hc : cleanEnv env = true) : ∀ f, ExpOk (genDefsNamed env f)
  | 0, n, st, h => post_refl st h
  | f + 1, n, st, h => by
    simp only [genDefsNamed]
    split
    · exact post_hit h ‹_›
    · split
      · exact post_refl st h
      · rename_i fs he
        exact post_struct (genDFields_post _ (genDefsNamed_ok env hc f) fs _ (inv_visit st (.named n) n (clean_of_lookup hc he) h))

private theorem splitOn_clean (sep : Nat) (s : Text) (h : sep ∉ s) : splitOn sep s = [s] := by
  induction s with
  | nil => rfl
  | cons c r ih =>
    rw [List.mem_cons, not_or] at h
    simp [splitOn, Ne.symm h.1, ih h.2]

private theorem pctDecode_cons_of_ne {c : Nat} (hc : c ≠ 37) (r : Text) : pctDecode (c :: r) = c :: pctDecode r := by
  simp [pctDecode, hc]

private theorem unescape_cons_of_ne {c : Nat} (hc : c ≠ 126) (r : Text) : unescape (c :: r) = c :: unescape r := by
  simp [unescape, hc]

private theorem pctDecode_clean (s : Text) (h : 37 ∉ s) : pctDecode s = s := by
  induction s with
  | nil => rfl
  | cons c r ih =>
    rw [List.mem_cons, not_or] at h
    rw [pctDecode_cons_of_ne (Ne.symm h.1), ih h.2]

private theorem unescape_clean (s : Text) (h : 126 ∉ s) : unescape s = s := by
  induction s with
  | nil => rfl
  | cons c r ih =>
    rw [List.mem_cons, not_or] at h
    rw [unescape_cons_of_ne (Ne.symm h.1), ih h.2]

private theorem resolve_defs {root : Sch} {defs : List (Text × Sch)} {n : Text} (hc : cleanName n = true)
    (hk : (defs.lookup n).isSome = true) : (resolve ⟨root, defs⟩ (t!"#/$defs/" ++ n)).isSome = true := by
  obtain ⟨h47, h126, h37⟩ := (cleanName_iff n).mp hc
  obtain ⟨s, hs⟩ := Option.isSome_iff_exists.mp hk
  have hp : pctDecode (t!"#/$defs/" ++ n) = t!"#/$defs/" ++ n := pctDecode_clean _ (by simp [h37])
  have hsplit : splitOn 47 (t!"#/$defs/" ++ n) = [t!"#", t!"$defs", n] := by simp [splitOn, splitOn_clean 47 n h47]
  unfold resolve
  rw [hp, hsplit]
  simp [unescape, unescape_clean n h126, hs, walk]

private theorem f64Int_small (i : Int) (h : i.natAbs ≤ 9007199254740992) : f64Int i = i := by
  simp [f64Int, h]

private theorem bindFragFields_cons {m : FieldMeta} {t : GoType} {fs : Fields} :
    bindFragFields ((m, t) :: fs) = true ↔ metaOk m = true ∧ jsonSkip m = false ∧ bindFrag t = true ∧ bindFragFields fs = true := by
  simp [bindFragFields, and_assoc]

mutual
private theorem bindFrag_frag : (T : GoType) → bindFrag T = true → frag T = true
  | .str, _ | .int _, _ | .float _, _ | .bool, _ => rfl
  | .ptr e, h | .slice e, h | .map e, h => bindFrag_frag e h
  | .struct fs, h => by
    simp only [bindFrag, Bool.and_eq_true] at h; simp only [frag, Bool.and_eq_true]
    exact ⟨bindFragFields_frag fs h.1, h.2⟩
  | .bytes, h | .time, h | .iface, h | .array _ _, h | .named _, h => by simp [bindFrag] at h
private theorem bindFragFields_frag : (fs : Fields) → bindFragFields fs = true → fragFields fs = true
  | [], _ => rfl
  | (m, t) :: fs, h => by
    obtain ⟨h1, _, h3, h4⟩ := bindFragFields_cons.mp h
    simp only [fragFields, Bool.and_eq_true]
    exact ⟨⟨h1, bindFrag_frag t h3⟩, bindFragFields_frag fs h4⟩
end

private theorem dec_null {num : Int → Int} {T : GoType} {v : GoVal} (h : dec num T .null = some v) : v = .nil := by
  cases T <;> cases h <;> rfl

private theorem dec_ptr (num : Int → Int) (e : GoType) {j : Json} (h : j ≠ .null) :
    dec num (.ptr e) j = (dec num e j).map .ptr := by
  cases j <;> first | rfl | exact absurd rfl h

private theorem collect_encList {e : GoType} {d : Json → Option GoVal}
    (h : ∀ v, populated [] v e = true → smallInts v = true → d (enc [] v e false) = some v) :
    ∀ vs, populatedList [] vs e = true → smallIntsList vs = true → collect ((encList [] vs e).map d) = some vs
  | [], _, _ => rfl
  | v :: vs, hp, hs => by
    simp only [populatedList, Bool.and_eq_true] at hp; simp only [smallIntsList, Bool.and_eq_true] at hs
    simp [encList, collect, h v hp.1 hs.1, collect_encList h vs hp.2 hs.2]

private theorem collect_encMap {e : GoType} {d : Json → Option GoVal}
    (h : ∀ v, populated [] v e = true → smallInts v = true → d (enc [] v e false) = some v) :
    ∀ kvs, populatedMap [] kvs e = true → smallIntsMap kvs = true →
      collect ((encMap [] kvs e).map (fun kv => (d kv.2).map (fun v => (kv.1, v)))) = some kvs
  | [], _, _ => rfl
  | (k, v) :: kvs, hp, hs => by
    simp only [populatedMap, Bool.and_eq_true] at hp; simp only [smallIntsMap, Bool.and_eq_true] at hs
    simp [encMap, collect, h v hp.1 hs.1, collect_encMap h kvs hp.2 hs.2]

mutual
private theorem rt : (T : GoType) → (v : GoVal) → bindFrag T = true → populated [] v T = true → smallInts v = true →
    dec f64Int T (enc [] v T false) = some v
  | .str, v, _, hp, _ => by obtain ⟨s, rfl⟩ := (populated_cases hp).2; rfl
  | .int _, v, _, hp, hs => by
    obtain ⟨i, rfl⟩ := (populated_cases hp).2
    simp only [smallInts, decide_eq_true_eq] at hs
    simp [enc, dec, f64Int_small i hs]
  | .float _, v, _, hp, _ => by obtain ⟨m, x, rfl⟩ := (populated_cases hp).2; rfl
  | .bool, v, _, hp, _ => by rw [(populated_cases hp).2]; rfl
  | .ptr e, v, hf, hp, hs => by
    obtain ⟨w, rfl, hw⟩ := (populated_cases hp).2
    have ih := rt e w hf hw hs
    -- a set pointer is not printed as `null` (which decodes to a nil pointer): what `null` decodes to is `nil`, not `w`
    have hne : enc [] w e false ≠ .null := fun hj => by
      cases dec_null (hj ▸ ih)
      exact absurd (populated_cases hw).1 (by decide)
    simp only [enc, dec_ptr f64Int e hne, ih, Option.map_some]
  | .slice e, v, hf, hp, hs => by
    obtain ⟨vs, rfl, hvs⟩ := (populated_cases hp).2
    simp [enc, dec, collect_encList (d := fun x => dec f64Int e x) (rt e · hf) vs hvs hs]
  | .map e, v, hf, hp, hs => by
    obtain ⟨kvs, rfl, hkvs⟩ := (populated_cases hp).2
    simp [enc, dec, collect_encMap (d := fun x => dec f64Int e x) (rt e · hf) kvs hkvs hs]
  | .struct fs, v, hf, hp, hs => by
    obtain ⟨vs, rfl, hvs⟩ := (populated_cases hp).2
    simp only [bindFrag, Bool.and_eq_true] at hf
    have hnd : nodup ((encFields [] vs fs).map (·.1)) = true := by
      rw [encFields_keys [] fs vs (bindFragFields_frag fs hf.1) hvs]; exact hf.2
    simp [enc, dec, rtFields vs fs (encFields [] vs fs) hf.1 hvs hs hnd (fun _ h => h)]
  | .bytes, _, hf, _, _ | .time, _, hf, _, _ | .iface, _, hf, _, _ | .array _ _, _, hf, _, _ | .named _, _, hf, _, _ => by
    simp [bindFrag] at hf
/-- the members are looked up by name in the whole object `kvs` -/
private theorem rtFields : (vs : List GoVal) → (fs : Fields) → (kvs : List (Text × Json)) → bindFragFields fs = true →
    populatedFields [] vs fs = true → smallIntsList vs = true → nodup (kvs.map (·.1)) = true →
    (∀ kv ∈ encFields [] vs fs, kv ∈ kvs) → decFields f64Int fs kvs = some vs
  | vs, [], kvs, _, hp, _, _, _ => by cases vs <;> simp_all [populatedFields, decFields]
  | vs, (m, t) :: fs, kvs, hf, hp, hs, hnd, hsub => by
    obtain ⟨hm, hskip, hft, hfs⟩ := bindFragFields_cons.mp hf
    obtain ⟨v, ws, rfl, hv, hws⟩ := populatedFields_cons hp
    simp only [smallIntsList, Bool.and_eq_true] at hs
    simp only [encFields_cons hm hv, hskip, Bool.false_eq_true, if_false, List.mem_cons] at hsub
    have hmem : (jsonName m, enc [] v t false) ∈ kvs := hsub _ (Or.inl rfl)
    have hrest := rtFields ws fs kvs hfs hws hs.2 hnd (fun kv h => hsub kv (Or.inr h))
    simp [decFields, hskip, lookup_of_mem hnd hmem, rt t v hft hv hs.1, hrest]
end

private theorem rtList : (vs : List GoVal) → (e : GoType) → bindFrag e = true → populatedList [] vs e = true → smallIntsList vs = true →
    collect ((encList [] vs e).map (fun x => dec f64Int e x)) = some vs :=
  fun vs e hf => collect_encList (rt e · hf) vs

private theorem rtMap : (kvs : List (Text × GoVal)) → (e : GoType) → bindFrag e = true → populatedMap [] kvs e = true → smallIntsMap kvs = true →
    collect ((encMap [] kvs e).map (fun kv => (dec f64Int e kv.2).map (fun v => (kv.1, v)))) = some kvs :=
  fun kvs e hf => collect_encMap (d := fun x => dec f64Int e x) (rt e · hf) kvs

/-- **Soundness on the fragment** (inline generator): for every type without `[]byte`, `time.Time`, interface, embedded
    fields, `,string`, `json:"-,"` and named (recursive) struct types, with distinct JSON names, and every fully
    populated value of it, the generated schema accepts `json.Marshal` of the value — in any document, with any fuel
    (it contains no `$ref`). -/
theorem C18_sound_partial (env : Env) (doc : Doc) (fuel : Nat) (T : GoType) (v : GoVal)
    (hf : frag T = true) (hp : populated env v T = true) :
    validates doc fuel (genInline T) (encodeFull env T v) = true := by
  -- with or without fuel left, `validates` is `vGo` with some treatment of `$ref`
  cases fuel <;> exact sound env _ T v hf hp

/-- … as a statement about the generated document and `validatesDoc`. -/
theorem C18_sound_partial_doc (env : Env) (T : GoType) (v : GoVal) (hf : frag T = true) (hp : populated env v T = true) :
    validatesDoc (genInlineDoc T) (encodeFull env T v) = true :=
  C18_sound_partial env _ _ T v hf hp

/-- **Field names**: on the fragment the schema's property names are exactly encoding/json's member names, in field order. -/
theorem C18_field_names (fs : Fields) (hf : frag (.struct fs) = true) :
    propertyNames (genInline (.struct fs)) = jsonFieldNames fs := by
  simp only [frag, Bool.and_eq_true] at hf
  exact inlineProps_names fs hf.1

/-- … and the encoding of a fully populated value has exactly these members. -/
theorem C18_encoding_members (env : Env) (fs : Fields) (vs : List GoVal) (hf : frag (.struct fs) = true)
    (hp : populated env (.struct vs) (.struct fs) = true) :
    (encFields env vs fs).map (·.1) = jsonFieldNames fs := by
  simp only [frag, Bool.and_eq_true] at hf
  exact encFields_keys env fs vs hf.1 hp

/-- **References resolve** ($defs style): for every environment of named struct types whose names need no JSON-pointer
    escaping and every type — recursive ones included — each `$ref` of the generated document resolves inside it. -/
theorem C18_refs_resolve (env : Env) (T : GoType) (hc : cleanEnv env = true) : refsResolve (genDefsDoc env T) = true := by
  have p := genD_post _ (genDefsNamed_ok env hc (env.length + 1)) T ⟨[], []⟩ ⟨by simp, by simp [refsOfProps]⟩
  simp only [refsResolve, Doc.refs, genDefsDoc, List.all_eq_true, List.mem_append]
  intro t ht
  obtain ⟨n, hn, rfl⟩ : Known _ t := ht.elim (p.known t) (p.inv.refs t)
  obtain ⟨hclean, hentry⟩ := p.inv.entry n hn
  exact resolve_defs hclean hentry

/-- **Argument binding**: for every type of the binding fragment (scalars, pointers, slices, maps, nested structs with
    distinct names, no `-` fields) and every fully populated value whose integers lie within ±2^53, binding the JSON
    encoding the caller sent — numbers passing through float64 — yields exactly that value. -/
theorem C18_bind (T : GoType) (v : GoVal) (hf : bindFrag T = true) (hp : populated [] v T = true) (hs : smallInts v = true) :
    bindArguments T (encodeFull [] T v) = some v := rt T v hf hp hs

/-- the bound is sharp: 2^53 + 1 does not survive the float64 step (it arrives as 2^53) -/
theorem C18_bind_witness :
    bindArguments (.struct [(Ex.fm t!"N" t!"n", .int 4)]) (encodeFull [] (.struct [(Ex.fm t!"N" t!"n", .int 4)]) (.struct [.int 9007199254740993]))
      = some (.struct [.int 9007199254740992]) ∧
    f64Int 9007199254740993 = 9007199254740992 ∧ f64Int (-9007199254740995) = -9007199254740996 :=
  ⟨rfl, by decide, by decide⟩

/-! ## the full statement is false of the code: one counterexample per construct (all kernel-evaluated) -/

/-- `[]byte`: every style describes an array of integers, encoding/json prints a base64 string. -/
theorem C18_bytes_counterexample :
    populated [] Ex.vBytes Ex.tBytes = true ∧
    validatesDoc (genInlineEnvDoc [] Ex.tBytes) (encodeFull [] Ex.tBytes Ex.vBytes) = false ∧
    validatesDoc (genNestedDoc [] Ex.tBytes) (encodeFull [] Ex.tBytes Ex.vBytes) = false ∧
    validatesDoc (genDefsDoc [] Ex.tBytes) (encodeFull [] Ex.tBytes Ex.vBytes) = false := by decide

/-- `time.Time`: described as an object (closed, in the default style), encoded as an RFC 3339 string. -/
theorem C18_time_counterexample :
    populated [] Ex.vTime Ex.tTime = true ∧
    validatesDoc (genInlineEnvDoc [] Ex.tTime) (encodeFull [] Ex.tTime Ex.vTime) = false ∧
    validatesDoc (genNestedDoc [] Ex.tTime) (encodeFull [] Ex.tTime Ex.vTime) = false ∧
    validatesDoc (genDefsDoc [] Ex.tTime) (encodeFull [] Ex.tTime Ex.vTime) = false := by decide

/-- embedded struct: one property named after the type, while encoding/json promotes the fields — wrong names, and the
    encoding is rejected (required `Base` missing; in the default style also `additionalProperties: false`). -/
theorem C18_embedded_counterexample :
    populated [] Ex.vEmb Ex.tEmb = true ∧
    jsonFieldNames Ex.fsEmb = [t!"id", t!"rank", t!"extra"] ∧
    (genInlineEnvDoc [] Ex.tEmb).propertyNames = [t!"Base", t!"extra"] ∧
    (genNestedDoc [] Ex.tEmb).propertyNames = [t!"Base", t!"extra"] ∧
    (genDefsDoc [] Ex.tEmb).propertyNames = [t!"Base", t!"extra"] ∧
    validatesDoc (genInlineEnvDoc [] Ex.tEmb) (encodeFull [] Ex.tEmb Ex.vEmb) = false ∧
    validatesDoc (genNestedDoc [] Ex.tEmb) (encodeFull [] Ex.tEmb Ex.vEmb) = false ∧
    validatesDoc (genDefsDoc [] Ex.tEmb) (encodeFull [] Ex.tEmb Ex.vEmb) = false := by decide

/-- `,string`: described as integer, encoded as a string. -/
theorem C18_string_option_counterexample :
    populated [] Ex.vStrOpt Ex.tStrOpt = true ∧
    encodeFull [] Ex.tStrOpt Ex.vStrOpt = .obj [(t!"n", .str t!"5")] ∧
    validatesDoc (genInlineEnvDoc [] Ex.tStrOpt) (encodeFull [] Ex.tStrOpt Ex.vStrOpt) = false ∧
    validatesDoc (genNestedDoc [] Ex.tStrOpt) (encodeFull [] Ex.tStrOpt Ex.vStrOpt) = false ∧
    validatesDoc (genDefsDoc [] Ex.tStrOpt) (encodeFull [] Ex.tStrOpt Ex.vStrOpt) = false :=
  ⟨by decide, rfl, by decide, by decide, by decide⟩

/-- interface field: typed `object` by the inline and $defs styles (the default style leaves it open and accepts). -/
theorem C18_interface_counterexample :
    populated [] Ex.vIface Ex.tIface = true ∧
    validatesDoc (genInlineEnvDoc [] Ex.tIface) (encodeFull [] Ex.tIface Ex.vIface) = false ∧
    validatesDoc (genDefsDoc [] Ex.tIface) (encodeFull [] Ex.tIface Ex.vIface) = false ∧
    validatesDoc (genNestedDoc [] Ex.tIface) (encodeFull [] Ex.tIface Ex.vIface) = true := by decide

/-- default style: the `$ref` to a first occurrence below a property called `a/b` is `#/properties/a/b` (not `a~1b`):
    it does not resolve, and the encoding is rejected. -/
theorem C18_ref_escape_counterexample :
    populated [] Ex.vEsc Ex.tEsc = true ∧
    (genNestedDoc [] Ex.tEsc).refs = [t!"#/properties/a/b"] ∧
    refsResolve (genNestedDoc [] Ex.tEsc) = false ∧
    validatesDoc (genNestedDoc [] Ex.tEsc) (encodeFull [] Ex.tEsc Ex.vEsc) = false := by decide

/-- $defs style: a type name containing `/` (generic instantiation with a type from another package) is used unescaped
    in `#/$defs/<name>`: the reference does not resolve (so `cleanEnv` in `C18_refs_resolve` is necessary). -/
theorem C18_defs_name_counterexample :
    cleanEnv Ex.envGeneric = false ∧
    refsResolve (genDefsDoc Ex.envGeneric (.named t!"main.H")) = false := by decide

/-- `json:"-,"`: encoding/json names the field "-", the inline and $defs generators drop it. -/
theorem C18_dash_comma_counterexample :
    jsonFieldNames Ex.fsDash = [t!"-", t!"e"] ∧
    propertyNames (genInline (.struct Ex.fsDash)) = [t!"e"] ∧
    (genDefsDoc [] (.struct Ex.fsDash)).propertyNames = [t!"e"] ∧
    (genNestedDoc [] (.struct Ex.fsDash)).propertyNames = [t!"-", t!"e"] := by decide

/-- inline style on a recursive type: below the depth limit every field is described as `object`, whatever its type —
    a list of 9 nodes is rejected (as is every list of 7 or more: the 7th node's fields are described at depth 0, and
    its `val` is a string), one of 3 nodes is accepted; the reference styles accept both. -/
theorem C18_depth_limit_counterexample :
    validatesDoc (genInlineEnvDoc Ex.envList Ex.tList) (encodeFull Ex.envList Ex.tList (Ex.listOf 2)) = true ∧
    validatesDoc (genInlineEnvDoc Ex.envList Ex.tList) (encodeFull Ex.envList Ex.tList (Ex.listOf 8)) = false ∧
    validatesDoc (genNestedDoc Ex.envList Ex.tList) (encodeFull Ex.envList Ex.tList (Ex.listOf 8)) = true ∧
    validatesDoc (genDefsDoc Ex.envList Ex.tList) (encodeFull Ex.envList Ex.tList (Ex.listOf 8)) = true := by decide

/-- a recursive pointer without `omitempty`: the two-node value `Ex.vChain` ends in `"next": null` (as every finite
    value of the type does), which no style accepts. -/
theorem C18_nil_pointer_witness :
    validatesDoc (genInlineEnvDoc Ex.envChain Ex.tChain) (encodeFull Ex.envChain Ex.tChain Ex.vChain) = false ∧
    validatesDoc (genNestedDoc Ex.envChain Ex.tChain) (encodeFull Ex.envChain Ex.tChain Ex.vChain) = false ∧
    validatesDoc (genDefsDoc Ex.envChain Ex.tChain) (encodeFull Ex.envChain Ex.tChain Ex.vChain) = false := by decide

private theorem refuted_by_bytes (gen : Env → GoType → Doc)
    (h : validatesDoc (gen [] Ex.tBytes) (encodeFull [] Ex.tBytes Ex.vBytes) = false) : ¬ SoundFor gen :=
  fun hs => Bool.false_ne_true (h.symm.trans (hs [] _ Ex.vBytes C18_bytes_counterexample.1).1)

/-- **C18 as stated** (`SoundFor`: every struct type, every fully populated value — accepted, references resolve, names
    agree) does not hold for any of the three styles. -/
theorem C18_sound_refuted_inline : ¬ SoundFor genInlineEnvDoc := refuted_by_bytes _ C18_bytes_counterexample.2.1

/-- the same for the nested (default) style -/
theorem C18_sound_refuted_nested : ¬ SoundFor genNestedDoc := refuted_by_bytes _ C18_bytes_counterexample.2.2.1

/-- the same for the `$defs` style -/
theorem C18_sound_refuted_defs : ¬ SoundFor genDefsDoc := refuted_by_bytes _ C18_bytes_counterexample.2.2.2

/-! ## `jsonschema` tags -/

private theorem retag_inlineProps (f : FieldMeta → Text) (fs : Fields) : inlineProps (retag f fs) = inlineProps fs := by
  induction fs with
  | nil => rfl
  | cons x fs ih =>
    obtain ⟨m, t⟩ := x
    simp only [retag, inlineProps, ih]
    rfl

/-- **Tags never remove a field**: replace the `jsonschema` tags of a fragment struct by ANY texts (patterns no regular
    expression engine accepts, commas, semicolons, unknown keywords, …): the schema's property names are still exactly
    encoding/json's member names of the type. (The tag parser `tagKeywords` is total — it has no failure path — and the
    struct generators consult the tag for `required` only.) -/
theorem C18_field_names_any_jsonschema_tag (fs : Fields) (f : FieldMeta → Text) (hf : frag (.struct fs) = true) :
    propertyNames (genInline (.struct (retag f fs))) = jsonFieldNames fs := by
  rw [← C18_field_names fs hf]
  simp only [genInline, propertyNames, retag_inlineProps]

private theorem flush_nonempty (st : DirState) (h1 : ∀ d ∈ st.out, d ≠ []) : ∀ d ∈ flush st, d ≠ [] := by
  unfold flush
  split
  next hc => exact List.forall_mem_cons.mpr ⟨by simpa using hc, h1⟩
  next => exact h1

/-- the invariant of the legacy loop: no finished directive is empty, and inside a description the builder is not -/
private def DirOk (st : DirState) : Prop := (∀ d ∈ st.out, d ≠ []) ∧ (st.inDesc = true → st.cur ≠ [])

private theorem legacyStep_inv (st : DirState) (part : Text) (h : DirOk st) : DirOk (legacyStep st part) := by
  have hflush := flush_nonempty st h.1
  unfold legacyStep
  split
  next hp => exact ⟨hflush, fun _ (e : part = []) => by rw [e] at hp; simp [hasPrefix] at hp⟩
  next =>
    split
    next hd =>
      split
      · exact ⟨List.forall_mem_cons.mpr ⟨h.2 hd, h.1⟩, fun e => by cases e⟩
      · exact ⟨h.1, fun _ e => by simpa using congrArg List.length e⟩
    next => exact ⟨hflush, fun e => by cases e⟩

/-- **The directive splitter never yields an empty directive**, for every tag text in either format (semicolon, or the
    legacy comma format with its description continuation). -/
theorem C18_directives_nonempty (tag : Text) : ∀ d ∈ parseDirectives tag, d ≠ [] := by
  intro d hd
  unfold parseDirectives at hd
  split at hd
  · simpa using (List.mem_filter.mp hd).2
  · exact flush_nonempty _ (List.foldlRecOn (motive := DirOk) _ legacyStep ⟨by simp, by simp⟩ fun st h p _ => legacyStep_inv st p h).1
      d (List.mem_reverse.mp hd)

/-- the oddities of the parser that exists (kernel-evaluated; the differential run ties them to the code): the legacy
    splitter cuts a pattern at a comma, a legacy description swallows `pattern=` (not one of its eleven stop words) and
    `required`, one `;` switches the whole tag to the semicolon format, `enum` accumulates, numbers that do not parse
    are dropped, and a blank around `required` hides it from `isRequiredField` although the parser sees the directive -/
theorem C18_tag_parser_witness :
    parseDirectives t!"pattern=^(a,b)$,required" = [t!"pattern=^(a", t!"b)$", t!"required"] ∧
    (tagKeywords .checked .str t!"pattern=^(a,b)$,required").pattern = t!"^(a" ∧
    (tagKeywords .checked .str t!"pattern=^(?!tmp)[a-z]+$").pattern = t!"^(?!tmp)[a-z]+$" ∧
    parseDirectives t!"description=d,pattern=x,required,title=t" = [t!"description=d, pattern=x, required", t!"title=t"] ∧
    parseDirectives t!"description=a;b,pattern=x" = [t!"description=a", t!"b,pattern=x"] ∧
    (tagKeywords .checked .str t!"enum=a,enum=b,c").enums = [t!"a", t!"b"] ∧
    (tagKeywords .checked .float t!"minimum=abc;maximum= 007.50 ;minLength=-1;maxLength=18446744073709551616") =
      { maximum := some (750, 2) } ∧
    parseDirectives t!" required ;title=x" = [t!"required", t!"title=x"] ∧
    isRequired ⟨t!"F", t!"f", t!" required ;title=x", false⟩ false = false := by decide +kernel

private theorem keywordTable_floatArg : ∀ p ∈ keywordTable, ∀ v w : Text, (p.2 v).floatArg = some w → v = w := by
  simp only [keywordTable, List.forall_mem_cons]
  simp [Directive.floatArg]

private theorem classify_floatArg (d v : Text) (h : (classify d).floatArg = some v) : directiveValue d = v := by
  unfold classify at h
  split at h
  next => cases h  -- `required`
  next =>
    split at h
    next =>  -- `key=value`
      split at h
      next p hp => exact keywordTable_floatArg p (List.mem_of_find?_eq_some hp) _ _ h  -- a `case` label
      next => cases h  -- unknown key
    next => split at h <;> cases h  -- `uniqueItems`, or nothing

private theorem applyDirective_finite (F : TagFacts) (k : TagKind) (kw : TagKw) (d : Text)
    (h : F.Good ∨ parseFloatLit (directiveValue d) ≠ .nonfinite) : (applyDirective F k kw d).nonfinite = kw.nonfinite := by
  unfold applyDirective
  -- a literal read as NaN / ±Inf only arrives where the three parsers are checked, and there it is dropped
  have hg : ∀ v, (classify d).floatArg = some v → parseFloatLit v = .nonfinite → F.Good :=
    fun v e hp => h.resolve_right fun hn => hn (classify_floatArg d v e ▸ hp)
  generalize classify d = dir at hg
  cases dir with
  | minimum v | maximum v =>
    simp only [applyClassified]
    cases hp : parseFloatLit v with
    | nonfinite => simp only [(hg v rfl hp).1, (hg v rfl hp).2.1, if_true]
    | _ => rfl
  | dflt v =>
    cases k with
    | float =>
      simp only [applyClassified, defaultOf]
      cases hp : parseFloatLit v with
      | nonfinite => simp only [(hg v rfl hp).2.2, if_true]
      | _ => rfl
    | _ => rfl
  | minLength v | maxLength v | minItems v | maxItems v => simp only [applyClassified]; cases parseUint64 v <;> rfl
  | _ => rfl

private theorem tagKeywords_finite (F : TagFacts) (k : TagKind) (js : Text)
    (h : ∀ d ∈ parseDirectives js, F.Good ∨ parseFloatLit (directiveValue d) ≠ .nonfinite) :
    (tagKeywords F k js).nonfinite = false := by
  unfold tagKeywords
  split
  · rfl
  · exact List.foldlRecOn (motive := fun kw => kw.nonfinite = false) _ _ (b := {}) rfl
      fun kw hkw d hd => (applyDirective_finite F k kw d (h d hd)).trans hkw

/-- **Serialisable**: where every tag number goes through the finiteness check (`F.Good`: `minimum`, `maximum` and a
    number-typed `default` are parsed by `parseFiniteFloat`, which rejects NaN and ±Inf), the keywords the parser sets
    are printable by encoding/json for EVERY tag text — no tag can make the tool's schema (and with it tools/list of
    the whole server) unserialisable. -/
theorem C18_tags_serialisable (F : TagFacts) (hF : F.Good) (k : TagKind) (js : Text) :
    (tagKeywords F k js).nonfinite = false :=
  tagKeywords_finite F k js (fun _ _ => Or.inl hF)

/-- instance obligation: today's source is in that region (regenerated facts `Mcp.Gen.tagNumberParsers`,
    `Mcp.Gen.tagFiniteCheck`: the three parsers are `parseFiniteFloat`, whose body rejects `math.IsNaN || math.IsInf`) -/
theorem C18_tag_numbers_finite_checked : codeTagFacts.Good := by decide

/-- … hence for the code as it is -/
theorem C18_tags_serialisable_today (k : TagKind) (js : Text) : (tagKeywords codeTagFacts k js).nonfinite = false :=
  C18_tags_serialisable _ C18_tag_numbers_finite_checked k js

/-- **Serialisable, in any region** (also without the finiteness check): if no directive of the tag carries a value
    that `strconv.ParseFloat` reads as NaN or ±Inf, the keywords are printable. Outside `F.Good` the hypothesis cannot
    be dropped: `C18_tag_nonfinite_witness`. -/
theorem C18_tags_serialisable_partial (F : TagFacts) (k : TagKind) (js : Text)
    (h : ∀ d ∈ parseDirectives js, parseFloatLit (directiveValue d) ≠ .nonfinite) :
    (tagKeywords F k js).nonfinite = false :=
  tagKeywords_finite F k js (fun d hd => Or.inr (h d hd))

/-- the region the code was in before 068180d (`TagFacts.unchecked`: plain `strconv.ParseFloat`): `minimum=NaN`,
    `maximum=Inf`, `default=-inf` on a number set a bound encoding/json refuses to print — the generated schema is no
    JSON document (and tools/list fails for every tool of the server). `+nan` and `infin` do not parse and are
    harmless; on an integer `default=inf` stays a string. With the check (`TagFacts.checked`) the same tags are ignored
    like any unparsable number, a number default falls back to the string. -/
theorem C18_tag_nonfinite_witness :
    (tagKeywords .unchecked .float t!"minimum=NaN").nonfinite = true ∧
    (tagKeywords .unchecked .int t!"required,maximum=Inf").nonfinite = true ∧
    (tagKeywords .unchecked .float t!"default=-inf").nonfinite = true ∧
    (tagKeywords ⟨true, false, true⟩ .float t!"minimum=NaN;maximum=Inf").nonfinite = true ∧
    (tagKeywords .unchecked .float t!"minimum=+nan;maximum=infin").nonfinite = false ∧
    (tagKeywords .unchecked .int t!"default=inf") = { dflt := some (.str t!"inf") } ∧
    (tagKeywords .checked .float t!"minimum=NaN;maximum=Inf") = {} ∧
    (tagKeywords .checked .float t!"default=-inf") = { dflt := some (.str t!"-inf") } := by decide +kernel

/-! ## registration histories -/

private theorem lookup_regStep {α : Type} (reg : List (Text × α)) (op : RegOp α) (n : Text) :
    (regStep reg op).lookup n = lastOp n (reg.lookup n) op := by
  cases op with
  | register name d =>
    by_cases h : name = []
    · simp [regStep, lastOp, h]
    · simp [regStep, lastOp, h, lookup_regSet]
  | unregister name => simp [regStep, lastOp, lookup_regErase]

/-- **The registry holds the last registered descriptor, whole**: after ANY history of registrations and
    unregistrations, what the registry (hence getTools / tools/list) shows for a name is exactly the descriptor of the
    most recent registration under that name — every part of it, nothing of an earlier registration — and nothing
    if the name was unregistered afterwards. Generic in the descriptor type. -/
theorem C18_registry_holds_last_registered {α : Type} (h : List (RegOp α)) (n : Text) :
    (regRun h).lookup n = lastRegistered h n :=
  (List.foldl_hom (fun reg : List (Text × α) => reg.lookup n) (fun reg op => (lookup_regStep reg op n).symm)).symm

/-- a registry that MERGES a re-registration with the previous descriptor (the new one wins where it says something,
    the parts it leaves unset are inherited) does not have this property: register with an output schema and
    annotations, register the same name again without — the old output schema, annotations and description are still
    advertised -/
theorem C18_registry_merge_witness :
    let rich : Parts := ⟨t!"first", 1, some 7, some 9⟩
    let bare : Parts := ⟨[], 2, none, none⟩
    let h : List (RegOp Parts) := [.register t!"x" rich, .register t!"x" bare]
    (h.foldl regStepMerge []).lookup t!"x" = some ⟨t!"first", 2, some 7, some 9⟩ ∧
    lastRegistered h t!"x" = some bare ∧ (regRun h).lookup t!"x" = some bare := by decide

/-- the fragment contains a type with tags, omitempty, `-`, jsonschema `required`, pointers, slices, arrays, maps and
    nested structs; the value is fully populated; no named type occurs in the type (on such types the driver compares
    the pure generator `genInline` with the stateful one at run time; that the two agree is not proved) -/
example : frag Ex.tFrag = true ∧ populated [] Ex.vFrag Ex.tFrag = true ∧ hasNamed Ex.tFrag = false := by decide

example : propertyNames (genInline Ex.tFrag) = [t!"name", t!"count", t!"Ratio", t!"opt", t!"tags", t!"grid", t!"index"] := by decide

/-- `C18_field_names_any_jsonschema_tag` on a concrete type: every field tagged with a pattern Go's RE2 rejects -/
example : frag Ex.tFrag = true ∧
    (match Ex.tFrag with
     | .struct fs => propertyNames (genInline (.struct (retag (fun _ => t!"required,pattern=^(?!tmp)[a-z]+$") fs)))
     | _ => []) = [t!"name", t!"count", t!"Ratio", t!"opt", t!"tags", t!"grid", t!"index"] := by decide

/-- the good region of the tag facts is inhabited and excludes the facts of the code before 068180d (and every
    partially checked variant) -/
example : TagFacts.checked.Good ∧ ¬ TagFacts.unchecked.Good ∧ ¬ (TagFacts.mk true false true).Good := by decide

/-- `C18_tags_serialisable_partial` applies to tags with bounds, patterns and unparsable numbers -/
example : ∀ d ∈ parseDirectives t!"minimum=-0,maximum=abc,pattern=^(?!x)", parseFloatLit (directiveValue d) ≠ .nonfinite := by decide

/-- the validator is not trivially true: dropping the required `name`, or a string for `count`, is rejected -/
example : validatesDoc (genInlineDoc Ex.tFrag) (.obj [(t!"Ratio", .num 15 1), (t!"tags", .arr []), (t!"grid", .arr []), (t!"index", .obj [])]) = false ∧
    validatesDoc (genInlineDoc Ex.tFrag) (.obj [(t!"name", .str t!"n"), (t!"count", .str t!"7"), (t!"Ratio", .num 15 1), (t!"tags", .arr []), (t!"grid", .arr []), (t!"index", .obj [])]) = false ∧
    validatesDoc (genInlineDoc Ex.tFrag) (encodeFull [] Ex.tFrag Ex.vFrag) = true := by decide +kernel

/-- $defs style, anonymous struct types: one `$defs` entry per TYPE — different types under equally named fields get
    different entries, the same type met again re-uses its entry — and the document accepts the encoded value
    (a generator keying the entry by the field name instead would hand `backup.limits` the schema of `primary.limits`) -/
example : ((genDefsDoc [] Ex.tTwins).defs.map (·.1)) = [t!"Type0x0", t!"Type0x1", t!"Type0x2", t!"Type0x3", t!"Type0x4"] ∧
    (genDefsDoc [] Ex.tTwins).refs.length = 6 ∧ refsResolve (genDefsDoc [] Ex.tTwins) = true ∧
    ((genDefsDoc [] Ex.tTwins).defs.lookup t!"Type0x2").map propertyNames = some [t!"max"] ∧
    ((genDefsDoc [] Ex.tTwins).defs.lookup t!"Type0x4").map propertyNames = some [t!"codes"] ∧
    validatesDoc (genDefsDoc [] Ex.tTwins) (encodeFull [] Ex.tTwins Ex.vTwins) = true := by decide +kernel

/-- a registration history with a re-registration that has fewer parts, an unregistration and a late registration -/
example : regRun [RegOp.register t!"x" (⟨t!"d", 1, some 7, some 9⟩ : Parts), .register t!"y" ⟨[], 3, none, none⟩, .register t!"x" ⟨[], 2, none, none⟩,
      .unregister t!"y", .register t!"z" ⟨t!"e", 4, some 8, none⟩, .register [] ⟨[], 0, none, none⟩] =
    [(t!"x", ⟨[], 2, none, none⟩), (t!"z", ⟨t!"e", 4, some 8, none⟩)] := by decide

/-- `C18_refs_resolve` applies to recursive environments, and the recursive documents do contain references -/
example : cleanEnv Ex.envList = true ∧ (genDefsDoc Ex.envList Ex.tList).refs = [t!"#/$defs/main.List", t!"#/$defs/main.List"] ∧
    (genNestedDoc Ex.envList Ex.tList).refs = [t!"#"] ∧ refsResolve (genNestedDoc Ex.envList Ex.tList) = true := by decide

end Mcp.Props.C18
