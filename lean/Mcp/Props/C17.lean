/-
  C17 — Retry: bounded attempts, only transient failures, capped backoff, prompt cancel.
-/
import Mcp.Model.Retry
import Mcp.Gen.Consts
import Mcp.Props.C17Tab.Defs
namespace Mcp.Props.C17
open Mcp.Retry Mcp.Str Mcp.Props.C17Tab

/-! ## clamping -/

private theorem clampI_range {lo hi x : Int} (h : lo ≤ hi) : lo ≤ clampI lo hi x ∧ clampI lo hi x ≤ hi := by
  unfold clampI; omega

private theorem clampI_idem {lo hi : Int} (h : lo ≤ hi) (x : Int) : clampI lo hi (clampI lo hi x) = clampI lo hi x := by
  unfold clampI; omega

private theorem validate_eq (L : Limits) (c : Cfg) : validate L c =
    { maxRetries := clampI L.minRetries L.maxRetries c.maxRetries
      initial := clampI L.minInitial L.maxInitial c.initial
      factor := clampF L.minFactor L.maxFactor L.nanClamped c.factor
      maxBackoff := clampI (clampI L.minInitial L.maxInitial c.initial) L.maxMaxBackoff c.maxBackoff } := rfl

private theorem clampF_cases (lo hi : Int) (nc : Bool) (f : Factor) :
    clampF lo hi nc f = .q lo 1 ∨ clampF lo hi nc f = .q hi 1 ∨
      (clampF lo hi nc f = f ∧ ((nc = false ∧ f = .nan) ∨ ∃ n d, f = .q n d ∧ lo * d ≤ n ∧ n ≤ hi * d)) := by
  cases f with
  | nan => cases nc <;> simp [clampF]
  | ninf => simp [clampF]
  | pinf => simp [clampF]
  | q n d =>
    simp only [clampF]
    split
    · exact .inl rfl
    · split
      · exact .inr (.inl rfl)
      · exact .inr (.inr ⟨rfl, .inr ⟨n, d, rfl, by omega, by omega⟩⟩)

private theorem clampF_id {lo hi : Int} (nc : Bool) {n : Int} {d : Nat} (h1 : lo * d ≤ n) (h2 : n ≤ hi * d) :
    clampF lo hi nc (.q n d) = .q n d := by
  simp only [clampF]; split
  · omega
  · split
    · omega
    · rfl

/-- Any configuration is clamped into the documented ranges — NaN and ±Inf factors included — provided `Validate`
    tests for NaN (the regenerated fact `nanClamped`, see `C17_limits_ok`). -/
theorem C17_clamp_range (L : Limits) (hL : L.ok) (hn : L.nanClamped = true) (c : Cfg)
    (hd : ∀ n d, c.factor = .q n d → 0 < d) : InRange L (validate L c) := by
  obtain ⟨h1, h2, h3, h4, _, _, _⟩ := hL
  have r1 := @clampI_range _ _ c.maxRetries h1
  have r2 := @clampI_range _ _ c.initial h2
  have r3 := @clampI_range _ L.maxMaxBackoff c.maxBackoff (Int.le_trans r2.2 h4)
  refine ⟨r1.1, r1.2, r2.1, r2.2, ?_, r3.1, r3.2⟩
  show (clampF L.minFactor L.maxFactor L.nanClamped c.factor).inRange L.minFactor L.maxFactor
  rcases clampF_cases L.minFactor L.maxFactor L.nanClamped c.factor with e | e | ⟨e, ⟨hnc, _⟩ | ⟨n, d, hf, hlo, hhi⟩⟩
  · rw [e]; exact ⟨by omega, by omega, by omega⟩
  · rw [e]; exact ⟨by omega, by omega, by omega⟩
  · rw [hn] at hnc; cases hnc
  · rw [e, hf]; exact ⟨hd n d hf, hlo, hhi⟩

/-- Witness for the bad region of the family: without the NaN test (the tree before the `fix:` commit) NaN passes
    `Validate` untouched, because both comparisons are false. -/
theorem C17_clamp_nan_witness :
    ¬ InRange { Mcp.Gen.retryLimits with nanClamped := false }
        (validate { Mcp.Gen.retryLimits with nanClamped := false } ⟨2, 500000000, .nan, 8000000000⟩) := by
  decide

private theorem clampF_idem {lo hi : Int} (h : lo ≤ hi) (nc : Bool) (f : Factor) :
    clampF lo hi nc (clampF lo hi nc f) = clampF lo hi nc f := by
  rcases clampF_cases lo hi nc f with e | e | ⟨e, _⟩
  · rw [e]; exact clampF_id nc (by omega) (by omega)
  · rw [e]; exact clampF_id nc (by omega) (by omega)
  · rw [e, e]

/-- Clamping is idempotent — for every configuration, NaN included. -/
theorem C17_clamp_idempotent (L : Limits) (hL : L.ok) (c : Cfg) :
    validate L (validate L c) = validate L c := by
  obtain ⟨h1, h2, h3, h4, _, _, _⟩ := hL
  have hib := Int.le_trans (@clampI_range _ _ c.initial h2).2 h4
  simp only [validate_eq, clampI_idem h1, clampI_idem h2, clampI_idem hib, clampF_idem h3]

/-- The regenerated limits satisfy the side conditions of the two theorems above, and the current source tests for NaN. -/
theorem C17_limits_ok : Mcp.Gen.retryLimits.ok ∧ Mcp.Gen.retryLimits.nanClamped = true := by decide

/-- …and they are the documented ones (0-10 retries, 1ms-30s initial, factor 1-10, max ≤ 5 minutes). -/
theorem C17_limits_documented :
    Mcp.Gen.retryLimits.minRetries = 0 ∧ Mcp.Gen.retryLimits.maxRetries = 10 ∧
    Mcp.Gen.retryLimits.minInitial = 1000000 ∧ Mcp.Gen.retryLimits.maxInitial = 30 * 1000000000 ∧
    Mcp.Gen.retryLimits.minFactor = 1 ∧ Mcp.Gen.retryLimits.maxFactor = 10 ∧
    Mcp.Gen.retryLimits.maxMaxBackoff = 5 * 60 * 1000000000 := by decide

example : InRange Mcp.Gen.retryLimits (validate Mcp.Gen.retryLimits ⟨99, 5, .q 31 2, 7⟩) := by decide

/-! ## the attempt loop -/

/-- The attempt loop in closed form: the run `r`, started at `attempt` with `waits` already slept, stops at attempt
    `k` — cancelled before the `k`-th call, or after it with success, with its error (non-transient, or `k` the last
    allowed attempt), or cancelled during the wait that follows. -/
private structure StopsAt (R : Text → Bool) (oz : Bool) (c : Cfg) (script : Nat → Option Text) (cancelAt : Option Int)
    (maxA attempt : Nat) (waits : List Int) (r : Run) (k : Nat) : Prop where
  start_le : attempt ≤ k
  le_max : k ≤ maxA
  transient : ∀ i, attempt ≤ i → i < k → ∃ m, script (i - 1) = some m ∧ R m = true
  slept : r.waits = waits ++ (List.range' attempt (k - attempt)).map (effWait oz c)
  attempts : r.attempts = k ∨ (r.attempts = k - 1 ∧ r.result = .ctxErr)
  success : r.result = .success → r.attempts = k ∧ script (k - 1) = none
  opErr : ∀ j, r.result = .opErr j → j = k ∧ r.attempts = k ∧ ∃ m, script (k - 1) = some m ∧ (R m = false ∨ k = maxA)
  ctxErr : r.result = .ctxErr → cancelAt.isSome

private theorem isSome_of_done {ca : Option Int} {t : Int} (h : doneAt ca t = true ∨ doneBefore ca t = true) :
    ca.isSome = true := by
  cases ca
  · simp [doneAt, doneBefore] at h
  · rfl

private theorem loop_run (R oz c script cancelAt maxA) :
    ∀ fuel attempt now waits, 1 ≤ attempt → attempt + fuel = maxA + 1 → 1 ≤ fuel →
      ∃ k, StopsAt R oz c script cancelAt maxA attempt waits (loop R oz c script cancelAt maxA fuel attempt now waits) k := by
  intro fuel
  induction fuel with
  | zero => intro _ _ _ _ _ h; omega
  | succ n ih =>
    intro attempt now waits h1 h2 _
    -- a run that stops at `attempt` itself
    have stop : ∀ {x : Nat} {res : Result}, (x = attempt ∨ (x = attempt - 1 ∧ res = .ctxErr)) →
        (res = .success → x = attempt ∧ script (attempt - 1) = none) →
        (∀ j, res = .opErr j → j = attempt ∧ x = attempt ∧
          ∃ m, script (attempt - 1) = some m ∧ (R m = false ∨ attempt = maxA)) →
        (res = .ctxErr → cancelAt.isSome) → ∃ k, StopsAt R oz c script cancelAt maxA attempt waits ⟨x, waits, res⟩ k :=
      fun ha hs he hc => ⟨attempt, Nat.le_refl _, by omega, fun i h h' => by omega, by simp, ha, hs, he, hc⟩
    -- one `split` per early return of the Go loop, in its order
    unfold loop
    split
    next hc => exact stop (.inr ⟨rfl, rfl⟩) nofun nofun fun _ => isSome_of_done (.inl hc)
    split
    next hs => exact stop (.inl rfl) (fun _ => ⟨rfl, hs⟩) nofun nofun
    rename_i msg hs
    have err : R msg = false ∨ attempt = maxA →
        ∃ k, StopsAt R oz c script cancelAt maxA attempt waits ⟨attempt, waits, .opErr attempt⟩ k := fun h =>
      stop (.inl rfl) nofun (fun j hj => ⟨(Result.opErr.inj hj).symm, rfl, msg, hs, h⟩) nofun
    split
    next hR => exact err (.inl (by simpa using hR))
    rename_i hR
    split
    next hm => exact err (.inr (by simpa using hm))
    rename_i hm
    split
    next hc => exact stop (.inl rfl) nofun nofun fun _ => isSome_of_done (.inr hc)
    have hne : attempt ≠ maxA := by simpa using hm
    obtain ⟨k, h⟩ := ih (attempt + 1) (now + effWait oz c attempt) (waits ++ [effWait oz c attempt])
      (by omega) (by omega) (by omega)
    have hk := h.start_le
    refine ⟨k, { h with start_le := by omega, transient := fun i hi hi' => ?_, slept := ?_ }⟩
    · by_cases hia : i = attempt
      · subst hia; exact ⟨msg, hs, by simpa using hR⟩
      · exact h.transient i (by omega) hi'
    · have e : k - attempt = (k - (attempt + 1)) + 1 := by omega
      rw [h.slept, e, List.range'_succ]; simp

private theorem execute_loop (R oz) {c : Cfg} (script cancelAt) (h : c.maxRetries ≠ 0) :
    execute R oz (some c) script cancelAt =
      loop R oz c script cancelAt (c.maxRetries + 1).toNat (c.maxRetries + 1).toNat 1 0 [] := by
  simp [execute, h]

private theorem execute_run (R oz) (c : Cfg) (script cancelAt) (h : 0 < c.maxRetries) :
    ∃ k, StopsAt R oz c script cancelAt (c.maxRetries + 1).toNat 1 [] (execute R oz (some c) script cancelAt) k := by
  rw [execute_loop R oz script cancelAt (by omega)]
  exact loop_run R oz c script cancelAt _ _ 1 0 [] (by omega) (by omega) (by omega)

private theorem execute_once (R oz) (c : Cfg) (script cancelAt) (h : c.maxRetries ≤ 0) :
    (execute R oz (some c) script cancelAt).waits = [] ∧ (execute R oz (some c) script cancelAt).attempts ≤ 1 := by
  by_cases h0 : c.maxRetries = 0
  · simp [execute, h0]
  · have e : (c.maxRetries + 1).toNat = 0 := by omega
    simp [execute_loop R oz script cancelAt h0, e, loop]

/-- At most `MaxRetries + 1` calls of the operation, for every script, classification and cancellation instant. -/
theorem C17_attempts (R oz) (c : Cfg) (script cancelAt) (h : 0 ≤ c.maxRetries) :
    ((execute R oz (some c) script cancelAt).attempts : Int) ≤ c.maxRetries + 1 := by
  by_cases h0 : 0 < c.maxRetries
  · obtain ⟨k, hr⟩ := execute_run R oz c script cancelAt h0
    have := hr.le_max
    have := hr.attempts
    omega
  · have := (execute_once R oz c script cancelAt (by omega)).2; omega

/-- Without a retry option (nil config) or with `MaxRetries = 0` the operation runs exactly once. -/
theorem C17_no_option_once (R oz script cancelAt) :
    (execute R oz none script cancelAt).attempts = 1 ∧
    ∀ c, c.maxRetries = 0 → (execute R oz (some c) script cancelAt).attempts = 1 := by
  refine ⟨rfl, ?_⟩
  intro c h; simp [execute, h]

/-- The sequence stops at the first success: the result is success exactly at an attempt whose outcome is
    success, every earlier attempt failed with a *transient* error, and nothing runs afterwards. -/
theorem C17_stop_at_success (R oz) (c : Cfg) (script cancelAt) (h : 0 < c.maxRetries)
    (hs : (execute R oz (some c) script cancelAt).result = .success) :
    let r := execute R oz (some c) script cancelAt
    1 ≤ r.attempts ∧ script (r.attempts - 1) = none ∧
    ∀ i, 1 ≤ i → i < r.attempts → ∃ m, script (i - 1) = some m ∧ R m = true := by
  obtain ⟨k, hr⟩ := execute_run R oz c script cancelAt h
  obtain ⟨ea, e⟩ := hr.success hs
  simp only [ea]; exact ⟨hr.start_le, e, hr.transient⟩

/-- A retry happens only after a failure classified transient; an operation error that is returned is either
    non-transient or the one of the last allowed attempt, and it is the error of the last call made. -/
theorem C17_retry_only_transient (R oz) (c : Cfg) (script cancelAt) (h : 0 < c.maxRetries) :
    let r := execute R oz (some c) script cancelAt
    (∀ i, 1 ≤ i → i < r.attempts → ∃ m, script (i - 1) = some m ∧ R m = true) ∧
    (∀ k, r.result = .opErr k → k = r.attempts ∧
        ∃ m, script (k - 1) = some m ∧ (R m = false ∨ (k : Int) = c.maxRetries + 1)) := by
  obtain ⟨k, hr⟩ := execute_run R oz c script cancelAt h
  have ha := hr.attempts
  refine ⟨fun i h1 h2 => hr.transient i h1 (by omega), fun j hj => ?_⟩
  obtain ⟨rfl, ea, m, hm, hR⟩ := hr.opErr j hj
  exact ⟨ea.symm, m, hm, hR.imp id (by omega)⟩

/-- The context error is returned only if the context was in fact cancelled. -/
theorem C17_ctx_err_only_if_cancelled (R oz) (c : Cfg) (script) (h : 0 < c.maxRetries) :
    (execute R oz (some c) script none).result ≠ .ctxErr := by
  obtain ⟨k, hr⟩ := execute_run R oz c script none h
  exact fun hc => nomatch hr.ctxErr hc

/-! ### waits and cancellation -/

private theorem execute_waits (R oz) (c : Cfg) (script cancelAt) :
    ∃ n : Nat, (n : Int) ≤ max c.maxRetries 0 ∧
      (execute R oz (some c) script cancelAt).waits = (List.range' 1 n).map (effWait oz c) := by
  by_cases h0 : 0 < c.maxRetries
  · obtain ⟨k, hr⟩ := execute_run R oz c script cancelAt h0
    exact ⟨k - 1, by have := hr.le_max; omega, by simpa using hr.slept⟩
  · exact ⟨0, by omega, (execute_once R oz c script cancelAt (by omega)).1⟩

private theorem effWait_bounds (oz) (c : Cfg) (hmb : 0 ≤ c.maxBackoff) (a : Nat) :
    0 ≤ effWait oz c a ∧ effWait oz c a ≤ c.maxBackoff := by
  unfold effWait backoff
  cases c.factor with
  | q n d =>
    generalize c.initial * _ ^ (a - 1) / _ = v
    simp only; omega
  | pinf | nan | ninf => simp only; omega

private theorem effWait_q (oz) (c : Cfg) (n : Int) (d : Nat) (hf : c.factor = .q n d) (hn : 0 ≤ n) (hi : 0 ≤ c.initial)
    (hmb : 0 ≤ c.maxBackoff) (k : Nat) (hov : oz = true → c.initial * n ^ k / (d : Int) ^ k < two63) :
    effWait oz c (k + 1) = min (c.initial * n ^ k / (d : Int) ^ k) c.maxBackoff := by
  have hnn : 0 ≤ c.initial * n ^ k / (d : Int) ^ k :=
    Int.ediv_nonneg (Int.mul_nonneg hi (Int.pow_nonneg hn)) (Int.pow_nonneg (Int.natCast_nonneg d))
  have hnov : (oz && decide (c.initial * n ^ k / (d : Int) ^ k ≥ two63)) = false := by
    cases oz with
    | false => rfl
    | true => have := hov rfl; simp; omega
  simp only [effWait, backoff, hf, Nat.add_sub_cancel, hnov, Bool.false_eq_true, ↓reduceIte]
  split <;> split <;> omega

/-- The k-th wait is `InitialBackoff × Factor^(k-1)` (rounded down to whole nanoseconds) capped at `MaxBackoff`,
    for every k — as long as the uncapped product stays below 2^63 ns (`oz = true`, the tree before the `fix:` commit:
    see the counterexample below; the repaired code, `oz = false`, needs no such hypothesis). -/
theorem C17_wait_k_partial (R oz) (c : Cfg) (script cancelAt) (n : Int) (d : Nat)
    (hf : c.factor = .q n d) (hn : 0 ≤ n) (hi : 0 ≤ c.initial) (hmb : 0 ≤ c.maxBackoff)
    (k : Nat) (hk : k < (execute R oz (some c) script cancelAt).waits.length)
    (hov : oz = true → c.initial * n ^ k / (d : Int) ^ k < two63) :
    (execute R oz (some c) script cancelAt).waits[k] =
      min (c.initial * n ^ k / (d : Int) ^ k) c.maxBackoff := by
  obtain ⟨m, _, hw⟩ := execute_waits R oz c script cancelAt
  rw [List.getElem_of_eq hw hk, List.getElem_map, List.getElem_range', Nat.one_mul, Nat.add_comm]
  exact effWait_q oz c n d hf hn hi hmb k hov

/-- The k-th wait, full statement for the code as it is now: the regenerated fact says the cap is applied before
    the float → integer conversion, so no overflow hypothesis is needed. -/
theorem C17_wait_k (R) (c : Cfg) (script cancelAt) (n : Int) (d : Nat)
    (hf : c.factor = .q n d) (hn : 0 ≤ n) (hi : 0 ≤ c.initial) (hmb : 0 ≤ c.maxBackoff)
    (k : Nat) (hk : k < (execute R Mcp.Gen.retryOverflowZero (some c) script cancelAt).waits.length) :
    (execute R Mcp.Gen.retryOverflowZero (some c) script cancelAt).waits[k] =
      min (c.initial * n ^ k / (d : Int) ^ k) c.maxBackoff :=
  C17_wait_k_partial R _ c script cancelAt n d hf hn hi hmb k hk
    (fun h => absurd h (by decide : ¬ Mcp.Gen.retryOverflowZero = true))

/-- D28 witness for the bad region of the family (`oz = true`, the tree before the `fix:` commit): a legal configuration
    — 9.3 s initial, factor 10, 10 retries — makes the 10th wait collapse to zero instead of the 5-minute cap. -/
theorem C17_wait_overflow_counterexample :
    let c : Cfg := ⟨10, 9300000000, .q 10 1, 300000000000⟩
    InRange Mcp.Gen.retryLimits c ∧ validate Mcp.Gen.retryLimits c = c ∧
    backoff true c 10 = 0 ∧ backoff false c 10 = 300000000000 := by decide

/-- Every wait actually slept lies between zero and `MaxBackoff` — whatever the factor (NaN and ±Inf included),
    the script, the classification and the cancellation instant, on the repaired and on the unrepaired code. -/
theorem C17_every_wait_capped (R oz) (c : Cfg) (script cancelAt) (hmb : 0 ≤ c.maxBackoff) :
    ∀ w ∈ (execute R oz (some c) script cancelAt).waits, 0 ≤ w ∧ w ≤ c.maxBackoff := by
  obtain ⟨m, _, hw⟩ := execute_waits R oz c script cancelAt
  intro w hmem
  obtain ⟨j, _, rfl⟩ := List.mem_map.mp (hw ▸ hmem)
  exact effWait_bounds oz c hmb j

/-- At most `MaxRetries` waits are slept (one between two consecutive attempts, none after the last). -/
theorem C17_waits_count (R oz) (c : Cfg) (script cancelAt) (h : 0 ≤ c.maxRetries) :
    ((execute R oz (some c) script cancelAt).waits.length : Int) ≤ c.maxRetries := by
  obtain ⟨m, hm, hw⟩ := execute_waits R oz c script cancelAt
  rw [hw, List.length_map, List.length_range']; omega

private theorem sum_le_of_all_le (b : Int) : ∀ (l : List Int), (∀ x ∈ l, x ≤ b) → l.sum ≤ l.length * b
  | [], _ => by simp
  | x :: xs, h => by
    have h1 := h x List.mem_cons_self
    have h2 := sum_le_of_all_le b xs fun y hy => h y (List.mem_cons_of_mem _ hy)
    simp only [List.sum_cons, List.length_cons, Int.natCast_add, Int.add_mul]
    omega

/-- The whole sequence sleeps at most `MaxRetries × MaxBackoff` in total: the retry loop cannot hold a caller
    longer than that between attempts, for every script, classification, factor and cancellation instant. -/
theorem C17_total_wait_bounded (R oz) (c : Cfg) (script cancelAt) (h : 0 ≤ c.maxRetries) (hmb : 0 ≤ c.maxBackoff) :
    (execute R oz (some c) script cancelAt).waits.sum ≤ c.maxRetries * c.maxBackoff := by
  have h1 := sum_le_of_all_le c.maxBackoff _
    (fun x hx => (C17_every_wait_capped R oz c script cancelAt hmb x hx).2)
  have h2 := C17_waits_count R oz c script cancelAt h
  have h3 := Int.mul_le_mul_of_nonneg_right h2 hmb
  omega

/-- …so a validated configuration never sleeps more than the documented 10 × 5 minutes, and never a negative time. -/
theorem C17_total_wait_documented (R oz) (c : Cfg) (script cancelAt)
    (hd : ∀ n d, c.factor = .q n d → 0 < d) :
    (execute R oz (some (validate Mcp.Gen.retryLimits c)) script cancelAt).waits.sum ≤ 10 * (5 * 60 * 1000000000) := by
  obtain ⟨a1, a2, a3, _, _, a6, a7⟩ := C17_clamp_range Mcp.Gen.retryLimits C17_limits_ok.1 C17_limits_ok.2 c hd
  obtain ⟨d1, d2, d3, _, _, _, d7⟩ := C17_limits_documented
  rw [d1] at a1
  rw [d2] at a2
  have hmb : 0 ≤ (validate Mcp.Gen.retryLimits c).maxBackoff := by omega
  have h1 := C17_total_wait_bounded R oz _ script cancelAt a1 hmb
  have h2 := Int.mul_le_mul_of_nonneg_right a2 hmb
  omega

private theorem scaled_mono (a : Int) (n : Int) (d : Nat) (k : Nat) (ha : 0 ≤ a) (hd : 0 < d) (hnd : (d : Int) ≤ n) :
    a * n ^ k / (d : Int) ^ k ≤ a * n ^ (k + 1) / (d : Int) ^ (k + 1) := by
  have hdpos : (0 : Int) < d := by omega
  calc a * n ^ k / (d : Int) ^ k
      = a * n ^ k * d / ((d : Int) ^ k * d) := (Int.mul_ediv_mul_of_pos_left _ _ hdpos).symm
    _ ≤ a * n ^ k * n / ((d : Int) ^ k * d) :=
        Int.ediv_le_ediv (Int.mul_pos (Int.pow_pos hdpos) hdpos)
          (Int.mul_le_mul_of_nonneg_left hnd (Int.mul_nonneg ha (Int.pow_nonneg (by omega))))
    _ = a * n ^ (k + 1) / (d : Int) ^ (k + 1) := by rw [Int.pow_succ, Int.pow_succ, Int.mul_assoc]

/-- With a factor of at least 1 the waits never shrink: each wait is at least as long as the one before it (they grow
    until the cap and stay there), for every script and cancellation instant — on the code as it is now. -/
theorem C17_waits_nondecreasing (R) (c : Cfg) (script cancelAt) (n : Int) (d : Nat)
    (hf : c.factor = .q n d) (hd : 0 < d) (hnd : (d : Int) ≤ n) (hi : 0 ≤ c.initial) (hmb : 0 ≤ c.maxBackoff)
    (k : Nat) (hk : k + 1 < (execute R Mcp.Gen.retryOverflowZero (some c) script cancelAt).waits.length) :
    (execute R Mcp.Gen.retryOverflowZero (some c) script cancelAt).waits[k] ≤
      (execute R Mcp.Gen.retryOverflowZero (some c) script cancelAt).waits[k + 1] := by
  have hn : 0 ≤ n := by omega
  rw [C17_wait_k R c script cancelAt n d hf hn hi hmb k (by omega),
    C17_wait_k R c script cancelAt n d hf hn hi hmb (k + 1) hk]
  have := scaled_mono c.initial n d k hi hd hnd
  omega

/-- non-vacuity: a run that really sleeps three capped waits (100 ms, 200 ms, then the 300 ms cap). -/
example : (execute (fun _ => true) false (some ⟨3, 100000000, .q 2 1, 300000000⟩)
    (fun _ => some []) none).waits = [100000000, 200000000, 300000000] := by decide

/-- Cancelling the caller's context ends the sequence with the context's error, and no attempt starts after the
    cancellation instant: once `t ≤ now` at the top of an iteration the loop returns `ctxErr` at once. -/
theorem C17_cancel_before_attempt (R oz c script maxA fuel attempt) (now t : Int) (waits) (h : t ≤ now) :
    loop R oz c script (some t) maxA (fuel + 1) attempt now waits = ⟨attempt - 1, waits, .ctxErr⟩ := by
  unfold loop; simp [doneAt, h]

/-- …and a cancellation that falls strictly inside a wait ends the sequence during that wait. -/
theorem C17_cancel_during_wait (R oz c script maxA fuel attempt) (now t : Int) (waits) (msg)
    (h0 : now < t) (hs : script (attempt - 1) = some msg) (hR : R msg = true) (hm : attempt ≠ maxA)
    (hw : t < now + (effWait oz c attempt)) :
    loop R oz c script (some t) maxA (fuel + 1) attempt now waits = ⟨attempt, waits, .ctxErr⟩ := by
  unfold loop
  have : ¬ t ≤ now := by omega
  simp [doneAt, doneBefore, this, hs, hR, hm, hw]

/-- A context cancelled before the call makes a retrying `Execute` return the context error with zero attempts. -/
theorem C17_cancelled_up_front (R oz) (c : Cfg) (script) (t : Int) (h : 0 < c.maxRetries) (ht : t ≤ 0) :
    execute R oz (some c) script (some t) = ⟨0, [], .ctxErr⟩ := by
  obtain ⟨m, hm⟩ : ∃ m, (c.maxRetries + 1).toNat = m + 1 := ⟨c.maxRetries.toNat, by omega⟩
  rw [execute_loop R oz script (some t) (by omega), hm]
  exact C17_cancel_before_attempt R oz c script _ m 1 0 t [] ht

-- non-vacuity: a concrete run that retries twice, waits 100ms then 200ms, then succeeds
example :
    execute (isRetryable Mcp.Gen.retryLimits.codes) true (some ⟨3, 100000000, .q 2 1, 8000000000⟩)
      (scriptOf [some t!"EOF", some t!"HTTP request failed: status code 503", none]) none
    = ⟨3, [100000000, 200000000], .success⟩ := by decide +kernel

-- non-vacuity: cancellation in the middle of the first wait
example :
    execute (isRetryable Mcp.Gen.retryLimits.codes) true (some ⟨3, 100000000, .q 2 1, 8000000000⟩)
      (scriptOf [some t!"EOF", none]) (some 5)
    = ⟨1, [], .ctxErr⟩ := by decide

/-! ## classification -/

private theorem codeMatches_infix {s c : Text} (h : codeMatches s c = true) : c <:+: s := by
  simp only [codeMatches, Bool.or_eq_true, contains_iff] at h
  rcases h with ((((h | h) | h) | h) | h) | h
  · exact List.infix_append_right.trans h
  · exact List.infix_append_right.trans h
  · exact List.infix_append_right.trans h
  · exact List.infix_append_right.trans h
  · exact List.infix_append_right.trans h
  · exact List.infix_append_left.trans h

private theorem isRetryable_iff {codes : List Text} {msg : Text} :
    isRetryable codes msg = true ↔
      (∃ p ∈ netPatterns, p <:+: toLower msg) ∨ toLower msg = t!"eof" ∨ t!": eof" <:+ toLower msg ∨
        ∃ c ∈ codes, codeMatches (toLower msg) c = true := by
  simp [isRetryable, httpStatusRetryable, contains_iff, hasSuffix_iff, or_assoc]

private def isDigit (c : Nat) : Bool := decide (48 ≤ c) && decide (c ≤ 57)

private theorem isDigit_iff {c : Nat} : isDigit c = true ↔ 48 ≤ c ∧ c ≤ 57 := by simp [isDigit]

private theorem netPatterns_letter : ∀ p ∈ netPatterns, 110 ∈ p ∨ 109 ∈ p := by decide

/-- A message without 'n' and 'm' that does not end in 'f' can only be retryable through a status code, and then
    the code's digits stand together among the message's digits. -/
private theorem retryable_digits {codes : List Text} {msg : Text} (hnm : ∀ x ∈ toLower msg, x ≠ 110 ∧ x ≠ 109)
    (hf : (toLower msg).getLast? ≠ some 102) (h : isRetryable codes msg = true) :
    ∃ c ∈ codes, c.filter isDigit <:+: (toLower msg).filter isDigit := by
  rcases isRetryable_iff.mp h with ⟨p, hp, hi⟩ | he | ⟨t, ht⟩ | ⟨c, hc, hcm⟩
  · rcases netPatterns_letter p hp with h' | h'
    · exact absurd rfl (hnm _ (hi.subset h')).1
    · exact absurd rfl (hnm _ (hi.subset h')).2
  · simp [he] at hf
  · simp [← ht] at hf
  · exact ⟨c, hc, (codeMatches_infix hcm).filter _⟩

/-- What the frame `a … b` of a transport's error text must be like for only the status inside it to count:
    no digit, no 'n', no 'm' (case ignored), and `b` not ending in 'f'. -/
private def PlainFrame (a b : Text) : Prop :=
  (∀ c ∈ toLower a ++ toLower b, isDigit c = false ∧ c ≠ 110 ∧ c ≠ 109) ∧ (toLower b).getLast? ≠ some 102

private instance (a b : Text) : Decidable (PlainFrame a b) := by unfold PlainFrame; infer_instance

private theorem toLower_digits {ds : Text} (h : ∀ c ∈ ds, isDigit c = true) : toLower ds = ds := by
  have : ∀ c ∈ ds, lowerChar c = id c := fun c hc => by
    have := isDigit_iff.mp (h c hc)
    simp only [lowerChar, id]; split <;> omega
  rw [toLower, List.map_congr_left this, List.map_id]

private theorem retryable_status_text {codes : List Text} {a ds b : Text} (hab : PlainFrame a b)
    (hd : ∀ c ∈ ds, isDigit c = true) (hne : ds ≠ []) (hc : ∀ c ∈ codes, ∀ x ∈ c, isDigit x = true)
    (h : isRetryable codes (a ++ ds ++ b) = true) : ∃ c ∈ codes, c <:+: ds := by
  have hl : toLower (a ++ ds ++ b) = toLower a ++ ds ++ toLower b := by
    rw [toLower_append, toLower_append, toLower_digits hd]
  obtain ⟨hab, hbf⟩ := hab
  simp only [List.mem_append] at hab
  have hx : ∀ x ∈ toLower (a ++ ds ++ b), x ≠ 110 ∧ x ≠ 109 := fun x hx => by
    simp only [hl, List.mem_append] at hx
    rcases hx with (hx | hx) | hx
    · exact (hab x (.inl hx)).2
    · have := isDigit_iff.mp (hd x hx); omega
    · exact (hab x (.inr hx)).2
  have hf : (toLower (a ++ ds ++ b)).getLast? ≠ some 102 := by
    have := isDigit_iff.mp (hd _ (List.getLast_mem hne))
    rw [hl, List.getLast?_append, List.getLast?_append, List.getLast?_eq_some_getLast hne, Option.some_or,
      Option.or_some]
    cases hlb : (toLower b).getLast? with
    | some x => simpa [hlb] using hbf
    | none => simp; omega
  obtain ⟨c, hcm, hi⟩ := retryable_digits hx hf h
  have e : ∀ t : Text, (∀ x ∈ t, isDigit x = false) → t.filter isDigit = [] := fun t ht =>
    List.filter_eq_nil_iff.mpr fun x hx => by simp [ht x hx]
  rw [hl, List.filter_append, List.filter_append, e _ fun x hx => (hab x (.inl hx)).1,
    e _ fun x hx => (hab x (.inr hx)).1, List.filter_eq_self.mpr hd, List.filter_eq_self.mpr (hc c hcm),
    List.nil_append, List.append_nil] at hi
  exact ⟨c, hcm, hi⟩

private theorem isRetryable_of_codeMatches {codes : List Text} {msg c : Text} (hc : c ∈ codes)
    (h : codeMatches (toLower msg) c = true) : isRetryable codes msg = true :=
  isRetryable_iff.mpr (.inr (.inr (.inr ⟨c, hc, h⟩)))

private theorem codes_digits : ∀ c ∈ Mcp.Gen.retryLimits.codes, (∀ x ∈ c, isDigit x = true) ∧ c.length = 3 := by decide

private theorem status_table : ∀ n ∈ List.range' 400 100,
    (natDigits n).length = 3 ∧ (natDigits n ∈ Mcp.Gen.retryLimits.codes → transient4xx n = true) := by
  decide +kernel

private theorem status_text_4xx {a b : Text} (hab : PlainFrame a b) {n : Nat} (h1 : 400 ≤ n) (h2 : n ≤ 499)
    (h : isRetryable Mcp.Gen.retryLimits.codes (a ++ natDigits n ++ b) = true) : n = 408 ∨ n = 409 ∨ n = 429 := by
  obtain ⟨hlen, ht⟩ := status_table n (List.mem_range'_1.mpr ⟨h1, by omega⟩)
  obtain ⟨c, hc, hi⟩ := retryable_status_text hab (fun x hx => isDigit_iff.mpr (natDigits_chars n x hx))
    (natDigits_ne_nil n) (fun c hc => (codes_digits c hc).1) h
  rw [hi.eq_of_length (by rw [hlen, (codes_digits c hc).2])] at hc
  simpa [transient4xx, or_assoc] using ht hc

/-- For every 4xx status the Streamable client's error text is classified retryable only if the status is 408, 409
    or 429 ("never after any other 4xx"): only the digits of such a text count (`retryable_status_text`), and the
    complete table 400…499 of digits against codes is evaluated by the kernel (`status_table`). -/
theorem C17_status_table_streamable (n : Nat) (h1 : 400 ≤ n) (h2 : n ≤ 499)
    (h : isRetryable Mcp.Gen.retryLimits.codes (streamableErr n) = true) : n = 408 ∨ n = 409 ∨ n = 429 := by
  rw [streamableErr, ← List.append_nil (_ ++ _)] at h
  exact status_text_4xx (by decide) h1 h2 h

/-- Same for the legacy SSE client's text (with an empty body; see `C17_body_text_counterexample` for bodies). -/
theorem C17_status_table_sse (n : Nat) (h1 : 400 ≤ n) (h2 : n ≤ 499)
    (h : isRetryable Mcp.Gen.retryLimits.codes (sseErr n []) = true) : n = 408 ∨ n = 409 ∨ n = 429 := by
  rw [sseErr, List.append_nil] at h
  exact status_text_4xx (by decide) h1 h2 h

/-- The transient codes the statement names *are* retried (if-direction for 408/409/429 and common 5xx). -/
theorem C17_named_codes_retried :
    ([408, 409, 429, 500, 502, 503, 504].all fun n => isRetryable Mcp.Gen.retryLimits.codes (streamableErr n)) = true := by
  refine List.all_eq_true.mpr fun n hn => ?_
  have : natDigits n ∈ Mcp.Gen.retryLimits.codes ∧
      codeMatches (toLower (streamableErr n)) (natDigits n) = true := by
    revert n; decide +kernel
  exact isRetryable_of_codeMatches this.1 this.2

/-- Network failures named by the statement are classified transient whatever surrounds them. -/
theorem C17_network_errors_retried (pre post : Text) :
    ∀ p ∈ [t!"connection refused", t!"connection reset", t!"i/o timeout"],
      isRetryable Mcp.Gen.retryLimits.codes (toLower pre ++ p ++ post) = true := by
  intro p hp
  have hp' : p ∈ netPatterns ∧ toLower p = p := by revert p; decide
  refine isRetryable_iff.mpr (.inl ⟨p, hp'.1, ?_⟩)
  rw [toLower_append, toLower_append, hp'.2]
  exact ⟨_, _, rfl⟩

/-- "EOF" alone or at the end of an error chain is transient. -/
theorem C17_eof_retried (pre : Text) :
    isRetryable Mcp.Gen.retryLimits.codes t!"EOF" = true ∧
    isRetryable Mcp.Gen.retryLimits.codes (pre ++ t!": EOF") = true := by
  refine ⟨by decide, isRetryable_iff.mpr (.inr (.inr (.inl ⟨toLower pre, ?_⟩)))⟩
  rw [toLower_append]; rfl

/-- D29: the `code+" "` clause makes a 4xx answer retryable when the *body* text the legacy SSE client appends
    happens to contain e.g. "500 " — a retry after "any other 4xx". -/
theorem C17_body_text_counterexample :
    isRetryable Mcp.Gen.retryLimits.codes (sseErr 400 t!"error 500 things") = true :=
  isRetryable_of_codeMatches (c := t!"500") (by decide) (by decide +kernel)

end Mcp.Props.C17
