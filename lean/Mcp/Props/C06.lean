/-
  C06 — Servers survive arbitrary peer input.

  Statement: no sequence of bytes, HTTP requests or stdio lines from a peer — malformed or truncated JSON, any JSON type in
  any field, unknown methods, deeply nested or very large values, missing / duplicated / garbage headers, wrong paths and
  verbs, responses to requests that were never sent — makes a server panic, deadlock, leak a goroutine per request or stop
  serving other clients. Each such input is answered by an HTTP error status or a JSON-RPC error, and the next well-formed
  request from any client is served normally.

  What is proved (about the decision logic, model `Mcp.Rpc`; byte → JSON parsing is `encoding/json`'s and is an input:
  "parse failure | JSON value"):

  * `C06_no_panic` — for EVERY configuration, registry (handlers arbitrary functions), session table and input — the whole
    `Json` type, by structural case analysis, nothing sampled — no reaction of any of the three servers is a panic. The
    model transcribes every bare type assertion of the request path as a function that CAN panic (`bareParamsMap`,
    `bareProtocolVersion` in `handleInitialize`); the theorem is that `checkInitializeParams` shields them.
    `C06_assertions_covered` (T-gen) pins the set of bare assertions in the source to the modelled ones: a new unguarded
    assertion, or a comma-ok form turned bare, breaks it. `C06_request_goroutines` (T-gen) records which goroutines would
    not survive a panic (legacy SSE `processRequestAsync`, the stdio line handler: no recover).
  * `C06_accept_header_total` — the one request header whose value library code parses, Accept
    (internal/httputil/accept.go, reached by every POST that carries a request), is modelled with its slice index as an
    operation that can panic: it returns for every header value, and the server with the parser in front never panics;
    `C06_accept_index_sites` (T-gen) pins the index / slice expressions of accept.go to the modelled one.
  * `C06_answered_streamable`, `C06_answered_stdio` — malformed input is answered by an HTTP error status or a JSON-RPC
    error: full statements on the repaired tree (a wrong path used to get an implicit empty 200, an id-only body an empty
    202, stdio used to drop every such line in silence: D09, D10, D11 — found by this check and repaired). Legacy SSE keeps a
    partial theorem (`C06_answered_sse_partial`): it writes 202 before it classifies and decodes the body, so an id without
    method / result / error and a request its typed decoder rejects are accepted and dropped
    (`C06_sse_accepts_then_drops_counterexample`).
  * `C06_stateless_wrt_garbage*` — input that is refused does not change how the next well-formed request is answered: the
    legacy SSE and stdio reactions are functions of registry and input alone; on Streamable HTTP a refused input leaves the
    session table alone (C04's `step_changes`) or — `initialize` without a session header whose parameters are
    rejected — adds one session nobody was told about, which changes no later answer.

  Liveness, dead-lock freedom and the absence of per-request goroutine leaks are run-time behaviour: they are explored by
  the harness (ping on the connection in use and on a fresh one after every batch, panic text on the ErrorLog, process
  death in child processes, stalled peers that never read their answers, goroutine census after quiescence — overall and
  per starting function), not proved. That is why this property is claimed partial.
-/
import Mcp.Props.C03
import Mcp.Props.C04
import Mcp.Gen.RpcFacts
namespace Mcp.Props.C06
open Mcp.Str Mcp.Json Mcp.Content Mcp.RpcSpec Mcp.Rpc Mcp.Session
open Mcp.Props.C04 (step_changes postBody_cases postBody_out_congr)

/-! ## no panic -/

/-- No input makes any server panic: all configurations, registries, session tables; the whole `Json` type. -/
theorem C06_no_panic (c : SCfg) (reg : Registry) (st : St) (i : HttpIn) (si : SseIn) (b : Body) :
    (serveStreamable c reg st i).2 ≠ .panic ∧ serveSSE reg si ≠ .panic ∧ serveStdio reg b ≠ .panic :=
  ⟨(serveStreamable_emits c reg st i).ne_panic, (serveSSE_emits reg si).ne_panic, (serveStdio_emits reg b).ne_panic⟩

/-- The Accept header parser (internal/httputil/accept.go, reached through responder.go `createResponder` for every POST
    that carries a request) returns for EVERY header value — any sequence of code points, any number of `,` and `;`, empty
    elements, parameters with and without `=`: its only slice index, `strings.Split(…)[0]`, is modelled as an index that can
    panic (`goIndex`), and `strings.Split` never returns an empty slice. With the parser in front of it (`serveWire`), the
    Streamable server still never panics, and the header decides nothing but the framing of the answer. -/
theorem C06_accept_header_total (c : SCfg) (reg : Registry) (st : St) (w : HttpWire) (postSSE : Bool) (h : Text) :
    (∃ as, parseAccept h = .ok as) ∧ (∃ b, chooseSSE postSSE h = .ok b) ∧ (serveWire c reg st w).2 ≠ .panic ∧
    (∃ acc, serveWire c reg st w = serveStreamable c reg st ⟨w.verb, w.pathOk, w.ref, acc, w.body⟩) :=
  ⟨parseAccept_ok h, chooseSSE_ok postSSE h, serveWire_ne_panic c reg st w, serveWire_eq c reg st w⟩

/-- …and the index really is one that can fire: on an empty slice it panics (so the model would notice a `Split` replaced
    by something that can return nothing, or an index other than 0). Parameters without a value — `;q`, `;q=`, `;;` — are
    dropped with the rest of the parameters. -/
theorem C06_accept_index_can_fire :
    (match goIndex ([] : List Text) 0 with | .panic => true | .ok _ => false) = true ∧
    (match goIndex (splitOn 59 t!"a;q") 2 with | .panic => true | .ok _ => false) = true ∧
    (match parseAccept t!"text/event-stream;q, ;;, application/json ;q=;x ,," with
      | .ok as => as == [t!"text/event-stream", t!"application/json "] | .panic => false) = true ∧
    (match chooseSSE true t!" */*;q" with | .ok b => b | .panic => false) = true ∧
    (match chooseSSE true t!"text/event-stream ;q=0" with | .ok b => !b | .panic => false) = true := by
  decide +kernel

/-- T-gen: the slice / array index expressions of internal/httputil/accept.go are exactly the modelled one — a new index
    (`kv[1]` of a parameter split on `=`, say) breaks this until it is modelled as an index that can panic. -/
theorem C06_accept_index_sites : Mcp.Gen.rpcIndexSites = modelledIndexSites := by decide

/-- …because every dispatcher outcome is an answer — including `initialize`, whose two bare assertions sit behind
    `checkInitializeParams`. -/
theorem C06_dispatch_total (reg : Registry) (req : Req) :
    (∃ a, dispatch reg req = .ok a) ∧ (∃ a, dispatchStdio reg req = .ok a) :=
  ⟨dispatch_ok reg req, dispatchStdio_ok reg req⟩

/-- The guard is what keeps them from firing: on their own the two assertions panic on parameters of the wrong kind
    (so the model would notice a removed guard). -/
theorem C06_bare_assertions_can_fire :
    (match bareParamsMap ⟨some (.int 1), t!"initialize", some (.int 5)⟩ with | .panic => true | .ok _ => false) = true ∧
    (match bareParamsMap ⟨some (.int 1), t!"initialize", none⟩ with | .panic => true | .ok _ => false) = true ∧
    (match bareProtocolVersion [(t!"protocolVersion", .int 5)] with | .panic => true | .ok _ => false) = true ∧
    (match bareProtocolVersion [] with | .panic => true | .ok _ => false) = true := by
  decide

/-- T-gen: the bare type assertions in the request-path files are exactly the two modelled ones plus the two in
    `SendRequest` (which assert the id of the application's own request — no peer input reaches them). -/
theorem C06_assertions_covered : Mcp.Gen.rpcBareAssertions = modelledBareSites ++ applicationSideBareSites := by decide

/-- T-gen: the goroutines the legacy SSE and stdio servers start per incoming message, and that none of them recovers — a
    panic there would end the process, which is what `Reaction.panic` stands for on these two servers. -/
theorem C06_request_goroutines :
    Mcp.Gen.rpcGoStmts.filter (fun g => perMessageGoFns.contains g.1) = perMessageGoStmts := by decide

/-- T-gen: in manager_lifecycle.go no method of lifecycleManager is called, at a point where `m.mu` may be held, that
    (transitively) locks or read-locks `m.mu` again — a `sync.RWMutex` is not reentrant: a second `RLock` under a held
    one dead-locks as soon as another client's initialize / notifications/initialized / DELETE queues its `Lock` between
    the two, and every later handshake of any client hangs. (Lexical may-hold walk; the run-time side is the concurrent
    handshake storm of the harness.) -/
theorem C06_lifecycle_lock_not_reentered : Mcp.Gen.rpcLifecycleNestedLocks = [] ∧ Mcp.Gen.rpcLifecycleLockers ≠ [] := by decide

/-- T-gen: the functions that wait for or deliver a peer's response to a server→client request (`SendRequest`,
    `HandleResponse`, `handleResponseMessage`, `handlePostResponse` … of the three servers) never `close` a channel: a
    waiter that gives up leaves by deleting its entry from the pending table — were it to close its channel, a response
    that was looked up a moment earlier would be sent on a closed channel and the panic would kill the process (the run-time
    side: answers of 1–4 MB arriving around the deadline of their request, harness scenario "response race"). -/
theorem C06_pending_channels_not_closed :
    Mcp.Gen.rpcResponseChannelCloses = [] ∧ t!"StdioServer.SendRequest" ∈ Mcp.Gen.rpcResponseFunctions ∧
    t!"SSEServer.SendRequest" ∈ Mcp.Gen.rpcResponseFunctions ∧ t!"httpServerHandler.SendRequest" ∈ Mcp.Gen.rpcResponseFunctions := by decide

/-! ## malformed input is answered -/

/-- Streamable HTTP — whatever the mode, the session reference and the Accept header: a wrong path is answered 404, an unknown
    verb 405, a body that is not a JSON-RPC message with an HTTP error status, and so is an id with neither method nor
    result nor error. (On the tree first studied a wrong path got an implicit empty 200 and the id-only body an empty 202 —
    D09, D10 — found by this check and repaired.) -/
theorem C06_answered_streamable (c : SCfg) (reg : Registry) (st : St) (v : Verb) (ref : Ref) (acc : Bool) (b : Body) :
    (serveStreamable c reg st ⟨v, false, ref, acc, b⟩).2.status = some 404 ∧
    (serveStreamable c reg st ⟨.other, true, ref, acc, b⟩).2.status = some 405 ∧
    (Malformed b → (serveStreamable c reg st ⟨.post, true, ref, acc, b⟩).2.answeredWithError = true) ∧
    (∀ j base, b = .json j → decodeBase j = some base → base.id.isSome = true → base.method = [] →
      decodeResponse j = some (false, false) → (serveStreamable c reg st ⟨.post, true, ref, acc, b⟩).2.answeredWithError = true) :=
  C03.C03_never_silent_streamable c reg st v ref acc b

/-- Legacy SSE, message endpoint: a body that is not a JSON-RPC message is answered with an HTTP error status or with a
    JSON-RPC error object — whatever the verb and the session parameter. -/
theorem C06_answered_sse_partial (reg : Registry) (verb : Verb) (ref : SseRef) (b : Body) (h : Malformed b) :
    (serveSSE reg ⟨verb, .message, ref, b⟩).answeredWithError = true :=
  (C03.C03_never_silent_sse_partial reg verb ref b).1 h

/-- The exclusions on legacy SSE (it writes 202 before it classifies and decodes the body): an id with neither method nor
    result nor error, and a request the typed decoder rejects (here: a parameter no float64 can hold), are accepted with an
    empty 202 and nothing follows on the stream — Streamable answers 400 to both. -/
theorem C06_sse_accepts_then_drops_counterexample :
    let idOnly : Json := .obj [(t!"jsonrpc", .str t!"2.0"), (t!"id", .int 5)]
    let huge := demoEnv (.int 1) t!"ping" (some (.obj [(t!"x", .int (10 ^ 400))]))
    (serveSSE demoReg (ssePostOf idOnly)).answeredWithError = false ∧ (serveSSE demoReg (ssePostOf idOnly)).status = some 202 ∧
    (serveSSE demoReg (ssePostOf idOnly)).messages.length = 0 ∧
    (serveSSE demoReg (ssePostOf huge)).answeredWithError = false ∧ (serveSSE demoReg (ssePostOf huge)).status = some 202 ∧
    (serveSSE demoReg (ssePostOf huge)).messages.length = 0 ∧
    (serveStreamable (demoCfg .stateful) demoReg demoSt (postOf (.sid 0) false idOnly)).2.status = some 400 ∧
    (serveStreamable (demoCfg .stateless) demoReg {} (postOf .none false huge)).2.status = some 400 := by
  decide +kernel

/-- stdio: a line that is not JSON, or not a JSON-RPC message (not an object, not version "2.0", neither id nor method, a
    number no float64 can hold), or a request the typed decoder rejects, is answered with a JSON-RPC error. (The tree first
    studied dropped all of these in silence — D11 — found by this check and repaired.) -/
theorem C06_answered_stdio (reg : Registry) (b : Body) :
    (MalformedLine b → (serveStdio reg b).answeredWithError = true) ∧
    (∀ j, b = .json j → classifyStdio j = some .request → decodeRequest j = none → (serveStdio reg b).answeredWithError = true) :=
  C03.C03_never_silent_stdio reg b

/-- non-vacuity of `MalformedLine`: the lines the old server dropped are in it and get −32700 / −32600 -/
example :
    (serveStdio demoReg .parseFail).errorCode = some (-32700) ∧
    classifyStdio (.arr []) = none ∧ (serveStdio demoReg (.json (.arr []))).errorCode = some (-32600) ∧
    (serveStdio demoReg (.json (.obj [(t!"jsonrpc", .str t!"1.0"), (t!"id", .int 1), (t!"method", .str t!"ping")]))).errorCode = some (-32600) ∧
    (serveStdio demoReg (.json (.obj [(t!"jsonrpc", .str t!"2.0")]))).errorCode = some (-32600) ∧
    (serveStdio demoReg (.json (demoEnv (.int (10 ^ 400)) t!"ping" none))).errorCode = some (-32600) := by
  decide +kernel

/-! ## refused input does not change later answers -/

private theorem postBody_refusal {c : Cfg} {st : St} {k : Kind} {sess : Option Sid}
    (h : 400 ≤ (postBody c st k sess).2.status) : (postBody c st k sess).1 = st := by
  obtain ⟨l, hl, h'⟩ := postBody_cases c st k sess
  rw [hl, h'.resolve_right (by omega)]

private theorem resolve_state {c : Cfg} {st st1 : St} {isInit : Bool} {ref : Ref} {sess : Option Sid}
    (h : resolve c st isInit ref = .ok (st1, sess)) :
    st1 = st ∨ (c.mode = .stateful ∧ st1 = { st with issued := st.issued + 1, live := st.issued :: st.live }) := by
  unfold resolve at h
  repeat' split at h
  all_goals cases h
  all_goals first | exact .inl rfl | exact .inr ⟨‹_›, rfl⟩

private theorem step_refusal {c : Cfg} {st : St} {op : Op} (h : 400 ≤ (step c st op).2.status) : (step c st op).1 = st :=
  (step_changes c st op).resolve_right (by omega)

/-- a refused exchange leaves the session table alone, or — a bad `initialize` without session header — adds one session -/
private theorem refused_state (c : SCfg) (reg : Registry) (st : St) (i : HttpIn)
    (h : (serveStreamable c reg st i).2.answeredWithError = true) :
    (serveStreamable c reg st i).1 = st ∨
    (c.sess.mode = .stateful ∧ (serveStreamable c reg st i).1 = { st with issued := st.issued + 1, live := st.issued :: st.live }) := by
  have hs := serveStreamable_step c reg st i
  generalize serveStreamable c reg st i = x at hs h
  cases hs with
  | refused s _ => exact .inl rfl
  | session op => exact .inl (step_refusal (answeredWithError_http.mp h))
  | undecoded b st1 sess hres => exact resolve_state hres
  | other b st1 sess k hres =>
    rw [postBody_refusal (answeredWithError_http.mp h)]
    exact resolve_state hres
  | request b st1 sess j req a hres _ _ _ =>
    -- an error inside a 200 is no result, so the request is no good `initialize`: `postBody` leaves the state alone
    have : (postBody c.sess st1 (requestKind req.method a) sess).1 = st1 := by
      cases a with
      | result r => exact nomatch (h : false = true)
      | _ => unfold requestKind; split <;> rfl
    rw [this]
    exact resolve_state hres

/-- A stateful server's reaction depends on the session table through the initialisation flags and through whether the
    referenced session is live, and on nothing else in it. -/
private theorem reaction_congr (c : SCfg) (reg : Registry) (st st' : St) (i : HttpIn) (hm : c.sess.mode = .stateful)
    (hl : st'.lstate = st.lstate) (hlive : ∀ s, i.ref = .sid s → (s ∈ st'.live ↔ s ∈ st.live)) :
    (serveStreamable c reg st' i).2 = (serveStreamable c reg st i).2 := by
  unfold serveStreamable
  split
  · rfl
  split
  · split
    · rfl
    next j _ =>
    unfold servePost
    split
    · rfl
    next b _ =>
    cases hr : i.ref with
    | bogus => simp only [resolve, hm]
    | none =>
      by_cases hi : (b.id.isSome && b.method == t!"initialize") = true
      · -- an `initialize` with an id is a request, and the reaction to a request mentions neither table nor session
        have hreq : (b.id.isSome && !b.method.isEmpty) = true := by
          simp only [Bool.and_eq_true, beq_iff_eq] at hi
          simp only [hi]
          rfl
        simp only [resolve, hm, hi, hreq, if_true]
        split
        · rfl
        · split <;> rfl
      · simp only [resolve, hm, hi, Bool.false_eq_true, if_false]
    | sid s =>
      by_cases hs : s ∈ st.live
      case neg => simp only [resolve, hm, hlive s hr, hs, if_false]
      simp only [resolve, hm, hlive s hr, hs, if_true]
      -- the same session in both runs: the table enters through the answers of `postBody`, which look at the flags
      have hp := fun k => congrArg (fun o => Reaction.http o.status) (postBody_out_congr c.sess st st' k (some s) hl)
      split
      · -- a request
        cases decodeRequest j with
        | none => rfl
        | some req =>
          dsimp only
          cases dispatch reg req <;> rfl
      split
      · -- a notification
        cases decodeNotification j with
        | none => rfl
        | some m => exact hp _
      split
      · -- a response
        cases decodeResponse j with
        | none => rfl
        | some r => exact hp _
      · -- neither
        rfl
  · unfold stepGet
    simp only [hm]
    split
    · rfl
    cases hr : i.ref with
    | sid s =>
      simp only [hlive s hr]
      split <;> rfl
    | _ => rfl
  · unfold stepDelete
    cases hr : i.ref with
    | sid s =>
      simp only [hm, hlive s hr]
      split <;> rfl
    | _ => simp only [hm]
  · rfl

/-- One refused input (HTTP error status or JSON-RPC error: wrong verbs, unknown or missing sessions, garbage bodies, unknown
    methods, invalid parameters, failing handlers …) and then a request whose session reference names nothing unissued:
    the request is answered exactly as without the refused input. -/
theorem C06_stateless_wrt_garbage_step (c : SCfg) (reg : Registry) (st : St) (bad good : HttpIn)
    (hbad : (serveStreamable c reg st bad).2.answeredWithError = true) (hk : refKnown st good.ref = true) :
    (serveStreamable c reg (serveStreamable c reg st bad).1 good).2 = (serveStreamable c reg st good).2 := by
  rcases refused_state c reg st bad hbad with h | ⟨hm, h⟩
  · rw [h]
  rw [h]
  refine reaction_congr c reg st _ good hm rfl fun s hs => ?_
  -- the session left behind bears the next id to be issued, which `good` cannot name
  have : s < st.issued := by simpa [refKnown, hs] using hk
  simp [Nat.ne_of_lt this]

/-- The same for any number of refused inputs before the request (every prefix of the history is refused at the time it
    arrives): the last reaction of the history is the reaction on the untouched server. -/
theorem C06_stateless_wrt_garbage (c : SCfg) (reg : Registry) (st : St) (bads : List HttpIn) (good : HttpIn)
    (hall : allRefused c reg st bads = true) (hk : refKnown st good.ref = true) :
    (runStreamable c reg st (bads ++ [good])).2 = (runStreamable c reg st bads).2 ++ [(serveStreamable c reg st good).2] := by
  induction bads generalizing st with
  | nil => simp [runStreamable]
  | cons b rest ih =>
    simp only [allRefused, Bool.and_eq_true] at hall
    obtain ⟨hb, hrest⟩ := hall
    have hk' : refKnown (serveStreamable c reg st b).1 good.ref = true := by
      rcases refused_state c reg st b hb with h | ⟨_, h⟩ <;> rw [h]
      · exact hk
      · -- one more id has been issued: a reference below the old count is below the new one
        cases hr : good.ref with
        | sid s =>
          rw [hr] at hk
          exact decide_eq_true (Nat.lt_succ_of_lt (of_decide_eq_true hk))
        | _ => rfl
    simp only [List.cons_append, runStreamable]
    rw [ih _ hrest hk', C06_stateless_wrt_garbage_step c reg st b good hb hk]

/-- Legacy SSE and stdio keep no state a message could touch: a history's reactions are the reactions to its inputs one
    by one (registry-only state). -/
theorem C06_stateless_wrt_garbage_sse_stdio (reg : Registry) (bads : List SseIn) (good : SseIn) (lines : List Body) (line : Body) :
    (bads ++ [good]).map (serveSSE reg) = bads.map (serveSSE reg) ++ [serveSSE reg good] ∧
    (lines ++ [line]).map (serveStdio reg) = lines.map (serveStdio reg) ++ [serveStdio reg line] := by
  simp

/-- non-vacuity: garbage, a wrong verb, an unknown session, an unknown method and an `initialize` with bad parameters and no
    session header (which leaves a session behind) are all refused; the tools/call that follows in session 0 is answered
    as on the untouched server -/
example :
    let bads : List HttpIn := [⟨.post, true, .sid 0, false, .parseFail⟩, ⟨.other, true, .none, false, .parseFail⟩,
      postOf .bogus false (demoEnv (.int 1) t!"ping" none), postOf (.sid 0) false (demoEnv (.int 2) t!"verif/nope" none),
      postOf .none false (demoEnv (.int 3) t!"initialize" (some (.int 5)))]
    let good := postOf (.sid 0) false (demoEnv (.str t!"g") t!"tools/call" (some (callParams t!"echo")))
    allRefused (demoCfg .stateful) demoReg demoSt bads = true ∧ refKnown demoSt good.ref = true ∧
    ((runStreamable (demoCfg .stateful) demoReg demoSt bads).1.live.length = 2) ∧
    (serveStreamable (demoCfg .stateful) demoReg demoSt good).2.hasResult = true := by
  decide +kernel

end Mcp.Props.C06
