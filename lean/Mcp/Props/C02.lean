/-
  C02 — What a handler returns is what the caller receives (wire fidelity).

  Encoding (`json.Marshal` over the struct tags) and decoding (the hand-written walkers) are separate code; the theorems
  say, for *all* values, that `decode ∘ encode` is the identity (up to nil-vs-empty), and that the decoders still refuse
  what is malformed. Below that (`C02Wire`): string escaping is invertible and never leaves a raw line break, an SSE
  event written by `WriteEvent` is read back by any conforming reader, and by the library's own per-line reader, as the
  one JSON text that went in.

  History: on the tree first studied the full statement was false — empty text / empty image fields were refused
  ("text is missing"), `audio` had no decoder case, `NewEmbeddedResource` wrote the tag `embedded_resource` while the
  decoder only knew `resource`, embedded resources with empty text / blob / uri were refused, annotations were dropped,
  and a `null` prompt message was a nil dereference (findings `content:{text,image,audio,embedded,annotations}:*` and
  their `content:prompt-*` twins, all fixed in mcp_tools.go / mcp_prompts.go). The model below is the repaired code.
-/
import Mcp.Model.Content
import Mcp.Model.Escape
namespace Mcp.Props.C02
open Mcp.Str Mcp.Json Mcp.Content Mcp.Escape

/-- the identifications the property allows: an empty list is a nil list, a JSON `null` is no structured content -/
def normResult (r : CallToolResult) : CallToolResult :=
  { r with
    content := match r.content with
      | none => none
      | some cs => sliceOf cs,
    structured := nullAsNil r.structured }

/-! ## what `lookup` sees of an encoded object

Every encoder appends literal bindings and optional fragments, each with a key of its own. With `lookup_append` a
decoder's `lookup` is computed fragment by fragment, once per key, without a case split on what is present; what a
reader makes of the result is then a fact about that one field. -/

@[simp] theorem lookup_optField (p : Bool) (k k' : Text) (v : Json) :
    lookup (optField p k v) k' = if p = true ∧ k = k' then some v else none := by
  cases p <;> simp [optField, lookup]

@[simp] theorem lookup_optBoolField (k k' : Text) (ob : Option Bool) :
    lookup (optBoolField k ob) k' = if k = k' then ob.map .bool else none := by
  cases ob <;> simp [optBoolField, lookup]

@[simp] theorem lookup_metaField (m : Obj) (k : Text) :
    lookup (metaField m) k = if m ≠ [] ∧ t!"_meta" = k then some (.obj m) else none := by
  cases m <;> simp [metaField, lookup]

@[simp] theorem lookup_structuredField (s : Option Json) (k : Text) :
    lookup (structuredField s) k = if t!"structuredContent" = k then s else none := by
  cases s <;> simp [structuredField, lookup]

private theorem parseAudience_map (aud : List Text) : parseAudience (aud.map .str) = some aud := by
  induction aud with
  | nil => rfl
  | cons a rest ih => simp [parseAudience, ih]

private theorem parseAnnotations_encode (a : Annotations) :
    ∃ m, encodeAnnotations a = .obj m ∧ parseAnnotations m = some a := by
  refine ⟨_, rfl, ?_⟩
  obtain ⟨aud, ⟨pm, pe⟩⟩ := a
  have hp := parseAudience_map aud
  simp only [parseAnnotations, lookup_append, lookup_optField, List.cons.injEq, Nat.reduceEqDiff, and_self, and_true,
    and_false, ↓reduceIte, Option.or_none, Option.none_or]
  -- `audience` is left out when empty, `priority` when zero; otherwise `Num.toJson` writes an `int` for exponent 0, else a `dec`
  by_cases hz : Num.isZero ⟨pm, pe⟩ = true
  · obtain ⟨rfl, rfl⟩ : pm = 0 ∧ pe = 0 := by simpa [Num.isZero] using hz
    by_cases ha : aud = [] <;> simp [ha, hz, hp]
  · cases pe <;> by_cases ha : aud = [] <;> simp [ha, hz, Num.toJson, hp]

private theorem parseAnnotated_cons (k : Text) (v : Json) (rest : Obj) (h : k ≠ t!"annotations") :
    parseAnnotated ((k, v) :: rest) = parseAnnotated rest := by
  simp [parseAnnotated, extractMap, lookup_cons_ne _ _ _ _ h]

private theorem parseAnnotated_annField (a : Option Annotations) : parseAnnotated (annField a) = a := by
  cases a with
  | none => rfl
  | some a =>
    obtain ⟨m, hm, hp⟩ := parseAnnotations_encode a
    simp [parseAnnotated, extractMap, annField, hm, hp]

private theorem parseResourceContents_encode (rc : ResourceContents) :
    ∃ m, encodeResourceContents rc = .obj m ∧ parseResourceContents m = .ok rc := by
  cases rc with
  | text _ mime _ | blob _ mime _ =>
    exact ⟨_, rfl, by cases mime <;> simp [parseResourceContents, extractString, lookupStr?, lookup, optField]⟩

/-- **one item**: every item the constructors can build — text, image, audio, embedded text / blob resource, with any
    strings (empty included) and any annotations — decodes to itself -/
theorem C02_content_roundtrip (c : Content) : ∃ m, encodeContent c = .obj m ∧ parseContent m = .ok c := by
  cases c with
  | embedded r a =>
    obtain ⟨m, hm, hp⟩ := parseResourceContents_encode r
    exact ⟨_, rfl, by simp [parseContent, extractString, extractMap, lookup, tagEmbedded, hm, hp,
      parseAnnotated_cons, parseAnnotated_annField]⟩
  | _ =>
    exact ⟨_, rfl, by simp [parseContent, extractString, lookupStr?, lookup, tagText, tagImage, tagAudio,
      parseAnnotated_cons, parseAnnotated_annField]⟩

private theorem parseContents_encode (cs : List Content) : parseContents (cs.map encodeContent) = .ok cs := by
  induction cs with
  | nil => rfl
  | cons c rest ih =>
    obtain ⟨m, hm, hp⟩ := C02_content_roundtrip c
    simp only [List.map_cons, hm, parseContents, hp, ih]

/-- **C02 for tool results, in full**: every result a handler can build — any sequence of text, image, audio and
    embedded-resource items with arbitrary strings and annotations, the error flag, any structured content, any `_meta`
    — is what `parseCallToolResult` makes of what `json.Marshal` wrote (nil and empty lists identified). -/
theorem C02_roundtrip (r : CallToolResult) : parseResult (encodeResult r) = .ok (normResult r) := by
  obtain ⟨mm, content, st, ie⟩ := r
  -- the four lookups, once; only then the split on what is present
  simp [parseResult, encodeResult, asMapTarget, extractMap, lookup_append, lookup]
  cases mm <;> cases content <;> cases ie <;> simp [sliceJson, normResult, parseContents_encode]

/-- the decoder is still a checker: a text item without a `text` member (or with a non-string one) is refused … -/
theorem C02_missing_text_rejected (rest : Obj) (h : lookupStr? rest t!"text" = none) :
    parseContent ((t!"type", .str tagText) :: rest) = .error .textMissing := by
  have : lookupStr? ((t!"type", Json.str t!"text") :: rest) t!"text" = none := by
    simpa [lookupStr?, lookup] using h
  simp only [parseContent, extractString, lookup_cons_eq, tagText, if_true, this]

/-- … and an unknown type tag still is -/
theorem C02_unknown_type_rejected :
    parseResult (.obj [(t!"content", .arr [.obj [(t!"type", .str t!"video"), (t!"data", .str t!"x")]])])
      = .error (.unsupportedType t!"video") := by rfl

/-- embedded resources are taken under the MCP schema's tag too (what other servers send) -/
theorem C02_embedded_under_schema_tag (rc : ResourceContents) (a : Option Annotations) :
    parseContent ([(t!"resource", encodeResourceContents rc), (t!"type", .str t!"resource")] ++ annField a)
      = .ok (.embedded rc a) := by
  obtain ⟨m, hm, hp⟩ := C02_content_roundtrip (.embedded rc a)
  exact Json.obj.inj hm ▸ hp

/-! ### non-vacuity: the constructs that used to be lost -/

example : parseResult (encodeResult ⟨[(t!"k", .int 1)],
    some [.text [] none, .image [] [] none, .audio t!"UklGRg==" t!"audio/wav" (some ⟨[t!"user"], ⟨5, 1⟩⟩),
      .embedded (.text t!"file:///a" [] []) none, .embedded (.blob [] t!"m" []) (some ⟨[], ⟨0, 0⟩⟩), .text t!"a\nb" (some ⟨[t!"user", t!"assistant"], ⟨1, 0⟩⟩)],
    some (.obj [(t!"a", .null)]), true⟩)
  = .ok ⟨[(t!"k", .int 1)],
    some [.text [] none, .image [] [] none, .audio t!"UklGRg==" t!"audio/wav" (some ⟨[t!"user"], ⟨5, 1⟩⟩),
      .embedded (.text t!"file:///a" [] []) none, .embedded (.blob [] t!"m" []) (some ⟨[], ⟨0, 0⟩⟩), .text t!"a\nb" (some ⟨[t!"user", t!"assistant"], ⟨1, 0⟩⟩)],
    some (.obj [(t!"a", .null)]), true⟩ := by
  rfl

/-! ## prompt results (`encoding/json` struct decoding + `PromptMessage.UnmarshalJSON` → `parseContent`) -/

private theorem parsePromptMessage_encode (m : PromptMessage) :
    parsePromptMessage (encodePromptMessage m) = .ok m := by
  obtain ⟨role, content⟩ := m
  cases content with
  | none => simp [parsePromptMessage, encodePromptMessage, encodeContentOpt, lookup]
  | some c =>
    obtain ⟨cm, hm, hp⟩ := C02_content_roundtrip c
    simp [parsePromptMessage, encodePromptMessage, encodeContentOpt, lookup, hm, hp]

private theorem parsePromptMessages_encode (ms : List PromptMessage) :
    parsePromptMessages (ms.map encodePromptMessage) = .ok ms := by
  induction ms with
  | nil => rfl
  | cons m rest ih => simp [parsePromptMessages, parsePromptMessage_encode, ih]

/-- **C02 for prompt results, in full**: every description, `_meta`, list of messages, role string and message content
    (no normalisation needed: `encoding/json` keeps nil and empty lists apart) -/
theorem C02_prompt_roundtrip (r : GetPromptResult) : parseGetPrompt (encodeGetPrompt r) = .ok r := by
  obtain ⟨mm, desc, msgs⟩ := r
  simp [parseGetPrompt, encodeGetPrompt, lookup_append, lookup]
  cases mm <;> cases desc <;> cases msgs <;> simp [sliceJson, parsePromptMessages_encode]

/-- a `null` element in `messages` (malformed peer) is an error of the decoder, no longer a nil dereference -/
theorem C02_prompt_null_message_rejected :
    parseGetPrompt (.obj [(t!"messages", .arr [.null])]) = .error .promptStructure := by rfl

example : parseGetPrompt (encodeGetPrompt ⟨[(t!"k", .bool true)], t!"desc", some [⟨t!"user", some (.text [] none)⟩, ⟨[], none⟩,
    ⟨t!"assistant", some (.embedded (.blob t!"u" [] t!"AAEC") (some ⟨[t!"user"], ⟨25, 2⟩⟩))⟩]⟩)
  = .ok ⟨[(t!"k", .bool true)], t!"desc", some [⟨t!"user", some (.text [] none)⟩, ⟨[], none⟩,
    ⟨t!"assistant", some (.embedded (.blob t!"u" [] t!"AAEC") (some ⟨[t!"user"], ⟨25, 2⟩⟩))⟩]⟩ := by rfl

/-! ## resource contents (`parseReadResourceResultFromJSON`: the lenient decoder) -/

private theorem parseResourceItem_of_strict {m : Obj} {rc : ResourceContents} (h : parseResourceContents m = .ok rc) :
    parseResourceItem m = rc := by
  have hu : ∀ u, lookupStr? m t!"uri" = some u → extractString m t!"uri" = u := by
    intro u; unfold lookupStr? extractString; split <;> simp
  unfold parseResourceContents at h
  unfold parseResourceItem
  split at h
  · cases h
  · next uri hk =>
    rw [hu uri hk]
    -- both decoders branch on the same two members
    cases ht : lookupStr? m t!"text" <;> cases hb : lookupStr? m t!"blob" <;> simp_all

private theorem parseResourceItems_encode (cs : List ResourceContents) :
    parseResourceItems (cs.map encodeResourceContents) = cs := by
  induction cs with
  | nil => rfl
  | cons c rest ih =>
    obtain ⟨m, hm, hp⟩ := parseResourceContents_encode c
    simp [hm, parseResourceItems, parseResourceItem_of_strict hp, ih]

/-- **C02 for resource contents holds in full**: every list of text / blob contents — empty text, empty blob, empty
    URI, any MIME type, any strings — is what `ReadResource` returns (a nil and an empty list are identified). -/
theorem C02_resource_roundtrip (cs : Option (List ResourceContents)) :
    parseReadResource (encodeReadResource cs) = .ok (match cs with | some [] => none | c => c) := by
  cases cs with
  | none => simp [parseReadResource, encodeReadResource, asMapTarget, extractArray, sliceJson]
  | some l =>
    simp only [parseReadResource, encodeReadResource, asMapTarget, extractArray, sliceJson, lookup_cons_eq,
      parseResourceItems_encode]
    cases l <;> rfl

example : parseReadResource (encodeReadResource (some [.text [] [] [], .blob t!"u" t!"m" [], .text t!"u" [] t!"a\nb"]))
    = .ok (some [.text [] [] [], .blob t!"u" t!"m" [], .text t!"u" [] t!"a\nb"]) := by rfl

/-! ## tool descriptors (`parseListToolsResultFromJSON`) -/

private theorem hintField_eq {m : Obj} {k : Text} {ob : Option Bool} (h : lookup m k = ob.map .bool) :
    hintField m k = some ob := by
  cases ob <;> simp [hintField, h]

private theorem parseToolAnnotations_encode (a : ToolAnnotations) :
    ∃ m, encodeToolAnnotations a = .obj m ∧ parseToolAnnotations m = some a := by
  refine ⟨_, rfl, ?_⟩
  obtain ⟨title, ro, de, id, ow⟩ := a
  unfold parseToolAnnotations
  rw [hintField_eq (ob := ro) (by simp [lookup_append]), hintField_eq (ob := de) (by simp [lookup_append]),
    hintField_eq (ob := id) (by simp [lookup_append]), hintField_eq (ob := ow) (by simp [lookup_append])]
  cases title <;> simp [lookup_append]

def schemaListable (schemaBad : Json → Bool) : Option Json → Bool
  | none => true
  | some (.obj o) => !schemaBad (.obj o)
  | some _ => false

/-- a descriptor the decoder keeps: a name, and schemas that are JSON objects kin-openapi accepts (or absent) -/
def listableTool (schemaBad : Json → Bool) (t : ToolDesc) : Bool :=
  !t.name.isEmpty && schemaListable schemaBad t.inputSchema && schemaListable schemaBad t.outputSchema

private theorem schemaListable_cases (bad : Json → Bool) (s : Option Json) (h : schemaListable bad s = true) :
    s = none ∨ ∃ o, s = some (.obj o) ∧ bad (.obj o) = false := by
  cases s with
  | none => exact Or.inl rfl
  | some j => cases j <;> simp_all [schemaListable]

/-- an optional member: what a nil pointer / nil interface field with `omitempty` comes down to -/
private def optMember (k : Text) : Option Json → Obj
  | none => []
  | some v => [(k, v)]

@[simp] private theorem lookup_optMember (k k' : Text) (o : Option Json) :
    lookup (optMember k o) k' = if k = k' then o else none := by
  cases o <;> simp [optMember, lookup]

private theorem encodeTool_members (t : ToolDesc) : encodeTool t = .obj ([(t!"name", .str t.name)]
    ++ optField (!t.description.isEmpty) t!"description" (.str t.description)
    ++ [(t!"inputSchema", t.inputSchema.getD .null)] ++ optMember t!"outputSchema" t.outputSchema
    ++ optMember t!"annotations" (t.annotations.map encodeToolAnnotations)) := by
  obtain ⟨_, _, _, outS, ann⟩ := t
  cases outS <;> cases ann <;> rfl

private theorem parseTool_encode (bad : Json → Bool) (t : ToolDesc) (h : listableTool bad t = true) :
    ∃ m, encodeTool t = .obj m ∧ parseTool bad m = some t := by
  refine ⟨_, encodeTool_members t, ?_⟩
  obtain ⟨name, desc, inS, outS, ann⟩ := t
  simp only [listableTool, Bool.and_eq_true] at h
  obtain ⟨⟨hn, hi⟩, ho⟩ := h
  have hn : name ≠ [] := by simpa using hn
  -- the five lookups, once. What is left: neither schema is refused (`inOk`, `outOk`), and each of the four decoded
  -- fields after the name is the descriptor's (`desc`, `inS`, `outS`, `ann`)
  simp [parseTool, extractString, extractMap, lookup_append, lookup, hn]
  refine ⟨?inOk, ?outOk, ?desc, ?inS, ?outS, ?ann⟩
  case inOk | inS => rcases schemaListable_cases bad inS hi with rfl | ⟨o, rfl, hb⟩ <;> simp [*]
  case outOk | outS => rcases schemaListable_cases bad outS ho with rfl | ⟨o, rfl, hb⟩ <;> simp [*]
  case desc => cases desc <;> simp
  case ann =>
    cases ann with
    | none => rfl
    | some a => obtain ⟨m, hm, hp⟩ := parseToolAnnotations_encode a; simp [hm, hp]

private theorem parseTools_encode (bad : Json → Bool) (ts : List ToolDesc) (h : ∀ t ∈ ts, listableTool bad t = true) :
    parseTools bad (ts.map encodeTool) = ts := by
  induction ts with
  | nil => rfl
  | cons t rest ih =>
    rw [List.forall_mem_cons] at h
    obtain ⟨m, hm, hp⟩ := parseTool_encode bad t h.1
    simp only [List.map_cons, hm, parseTools, hp, ih h.2]

/-- **descriptors**: the tools listed are the tools registered — names, descriptions (any string), schemas (as JSON),
    annotations (title and the four optional hints) — for every list of listable descriptors -/
theorem C02_descriptors_roundtrip (bad : Json → Bool) (ts : List ToolDesc) (h : ∀ t ∈ ts, listableTool bad t = true) :
    parseListTools bad (encodeListTools ts) = .ok (ts, []) := by
  simp [parseListTools, encodeListTools, asMapTarget, extractArray, extractString, lookup, parseTools_encode bad ts h]

/-- a tool whose schema the client-side schema library refuses vanishes from the listing without any error -/
theorem C02_descriptor_skipped_counterexample :
    parseListTools (fun _ => true) (encodeListTools [⟨t!"a", [], some (.obj [(t!"type", .int 5)]), none, none⟩, ⟨t!"b", [], none, none, none⟩])
      = .ok ([⟨t!"b", [], none, none, none⟩], []) := by rfl

example : listableTool (fun _ => false) ⟨t!"greet", t!"says <hi>", some (.obj [(t!"type", .str t!"object")]), none,
    some ⟨t!"T", some true, none, some false, none⟩⟩ = true := by rfl

/-! ## a handler's Go error -/

private theorem clientErrorText_eq (p : Path) (msg : Text) :
    clientErrorText p msg
      = (clientPrefix p ++ serverErrorMessage p []) ++ msg ++ (t!" (code: " ++ intText (-32603) ++ t!")") := by
  cases p <;> simp only [clientErrorText, serverErrorMessage, List.append_assoc, List.append_nil]

/-- **a handler error reaches the caller as an error that carries the handler's message** — for every message text and
    every tool name, on the three request paths (the text itself travels as a JSON string: `C02_string_fidelity`) -/
theorem C02_handler_error (p : Path) (msg : Text) : contains (clientErrorText p msg) msg = true := by
  rw [clientErrorText_eq, List.append_assoc]
  exact contains_infix _ _ _

example : clientErrorText (.tool t!"echo") t!"disk full" = t!"tool call error: tool execution failed (tool: echo): disk full (code: -32603)" := by
  decide

/-- **exactly the message**: the caller's error text is the handler's message inside a wrapper that depends on the request
    path only - the message is copied, never interpreted (a `%` in it is a `%`) - so the message can be read back from the
    error text: two handler messages that give the same error text on the same path are the same message -/
theorem C02_handler_error_exact (p : Path) (msg : Text) :
    ∃ pre post : Text, (∀ m : Text, clientErrorText p m = pre ++ m ++ post) ∧ clientErrorText p msg = pre ++ msg ++ post :=
  ⟨_, _, clientErrorText_eq p, clientErrorText_eq p msg⟩

theorem C02_handler_error_injective (p : Path) (m₁ m₂ : Text) (h : clientErrorText p m₁ = clientErrorText p m₂) : m₁ = m₂ := by
  obtain ⟨pre, post, hall, _⟩ := C02_handler_error_exact p m₁
  rw [hall m₁, hall m₂, List.append_assoc, List.append_assoc] at h
  exact List.append_cancel_right (List.append_cancel_left h)

/-- non-vacuity: printf material in a handler's message arrives as it is (not "50%!d(MISSING)one") -/
example : clientErrorText .prompt t!"50% done %d %s" = t!"get prompt error: 50% done %d %s (code: -32603)"
    ∧ clientErrorText (.tool t!"fail 100%d %s") t!"%" = t!"tool call error: tool execution failed (tool: fail 100%d %s): % (code: -32603)" := by
  decide

/-! ## routing: the payload never decides what kind of message a response is -/

/-- **a response is routed as a response whatever its result contains** - for every id and every result JSON (any member
    names at any depth, `"method"` and `"id"` included), by both classifiers of the library -/
theorem C02_response_routed_by_envelope (id result : Json) :
    classifyLegacySSE (responseEnvelope id result) = .response ∧ classifyMessageType (responseEnvelope id result) = .response := by
  constructor <;> simp [classifyLegacySSE, classifyMessageType, responseEnvelope, hasKey, lookup, lookupStr?]

/-- ... in particular the encoding of every tool result and of every prompt result -/
theorem C02_result_routed_as_response (id : Json) (r : CallToolResult) (p : GetPromptResult) :
    classifyLegacySSE (responseEnvelope id (encodeResult r)) = .response ∧ classifyLegacySSE (responseEnvelope id (encodeGetPrompt p)) = .response :=
  ⟨(C02_response_routed_by_envelope id _).1, (C02_response_routed_by_envelope id _).1⟩

/-- the foil: a classifier that finds member names at any depth (a raw-text probe for `"id":` / `"method":`) takes the
    response carrying structured content `{"request":{"method":"GET"}}` for a server request - the caller would never get it -/
theorem C02_any_depth_routing_counterexample :
    classifyAnyDepth (responseEnvelope (.int 1) (encodeResult ⟨[], some [.text t!"payload" none],
      some (.obj [(t!"request", .obj [(t!"method", .str t!"GET")])]), false⟩)) = .request := by
  decide

/-- non-vacuity: that very result is routed as a response and decodes to what the handler returned -/
example :
    let r : CallToolResult := ⟨[(t!"id", .int 7), (t!"method", .str t!"tools/call")], some [.text t!"\"method\":" none],
      some (.obj [(t!"request", .obj [(t!"method", .str t!"GET"), (t!"id", .int 1), (t!"params", .obj [(t!"result", .null), (t!"error", .str t!"jsonrpc")])])]), false⟩
    classifyLegacySSE (responseEnvelope (.int 1) (encodeResult r)) = .response ∧ parseResult (encodeResult r) = .ok r := by
  intro r
  exact ⟨rfl, rfl⟩

/-! ## registration histories: a listing shows what is registered now -/

open Mcp.Content.Registry

private theorem find_eq {α} (r : Reg α) (k : Text) : find r k = (r.find? (·.1 = k)).map (·.2) := by
  induction r with
  | nil => rfl
  | cons p rest ih => by_cases h : p.1 = k <;> simp [find, h, ih]

private theorem find_append {α} (r s : Reg α) (k : Text) : find (r ++ s) k = (find r k).or (find s k) := by
  simp [find_eq, Option.map_or]

private theorem find_isSome_iff_mem {α} (r : Reg α) (k : Text) : (find r k).isSome = true ↔ k ∈ names r := by
  simp [find_eq, names]

private theorem find_register {α} (r : Reg α) (n : Text) (d : α) (k : Text) :
    find (register r n d) k = if k = n then some d else find r k := by
  induction r with
  | nil => simp [register, find, eq_comm]
  | cons p rest ih =>
    obtain ⟨a, v⟩ := p
    simp only [register]
    split
    · next ha => subst ha; simp only [find]; split <;> simp_all [eq_comm]
    · next ha => simp only [find, ih]; split <;> simp_all [eq_comm]

private theorem find_registerKeepFirst {α} (r : Reg α) (n : Text) (d : α) (k : Text) :
    find (registerKeepFirst r n d) k = if k = n then (if (find r n).isSome then find r n else some d) else find r k := by
  unfold registerKeepFirst
  split
  · split <;> simp [*]
  · rw [find_append]
    split
    · next hk => subst hk; simp_all [find]
    · next hk => simp [find, Ne.symm hk]

private theorem find_unregister {α} (r : Reg α) (ns : List Text) (k : Text) :
    find (unregister r ns) k = if k ∈ ns then none else find r k := by
  simp only [find_eq, unregister, find?_filter_key r (!ns.contains ·)]
  split <;> simp_all

private theorem find_step {α} (kf : Bool) (r : Reg α) (s : Step α) : specStep kf (find r) s = find (step kf r s) := by
  funext k
  cases s with
  | reg n d => cases kf <;> simp [step, specStep, find_register, find_registerKeepFirst]
  | unreg ns => simp [step, specStep, find_unregister]

/-- **after ANY history of registrations, re-registrations and unregistrations the registry holds, under every key, exactly
    what is currently registered there** - the last registered descriptor and handler (tools, prompts, resources:
    `keepFirst = false`), the first one for resource templates (`keepFirst = true`: the code refuses a second registration),
    nothing for a key that was unregistered or never registered. For all histories, all keys, any descriptor type. -/
theorem C02_registry_holds_current {α} (keepFirst : Bool) (h : List (Registry.Step α)) (key : Text) :
    Registry.find (Registry.run keepFirst h) key = Registry.current keepFirst h key :=
  (congrFun (List.foldl_hom Registry.find (find_step keepFirst)) key).symm

private theorem names_register {α} (r : Reg α) (n : Text) (d : α) :
    names (register r n d) = if n ∈ names r then names r else names r ++ [n] := by
  induction r with
  | nil => simp [register, names]
  | cons p rest ih =>
    simp only [names] at ih
    by_cases ha : p.1 = n
    · simp [register, names, ha]
    · simp only [register, names, ha, if_false, List.map_cons, List.mem_cons, Ne.symm ha, false_or]
      split <;> simp [*]

/-- the order of a listing that follows the order slice (resources/list): a re-registered key KEEPS its position, a new key
    goes to the end (both registration policies) -/
theorem C02_registry_order {α} (keepFirst : Bool) (r : Registry.Reg α) (n : Text) (d : α) :
    Registry.names (Registry.step keepFirst r (.reg n d)) = if n ∈ Registry.names r then Registry.names r else Registry.names r ++ [n] := by
  cases keepFirst with
  | false => exact names_register r n d
  | true =>
    simp only [Registry.step, Registry.registerKeepFirst, if_true, find_isSome_iff_mem]
    split <;> simp [Registry.names]

private theorem nodup_step {α} (kf : Bool) (r : Reg α) (hr : (names r).Nodup) (s : Step α) : (names (step kf r s)).Nodup := by
  cases s with
  | reg n d =>
    rw [C02_registry_order]
    split
    · exact hr
    · next hm => simpa [List.nodup_append, hr] using fun a ha (e : a = n) => hm (e ▸ ha)
  | unreg ns => exact hr.sublist (List.filter_sublist.map _)

/-- every currently registered key is listed exactly once (no key twice, whatever the history) -/
theorem C02_registry_lists_each_once {α} (keepFirst : Bool) (h : List (Registry.Step α)) :
    (Registry.names (Registry.run keepFirst h)).Nodup :=
  List.foldlRecOn (motive := fun r => (Registry.names r).Nodup) h _ List.nodup_nil
    fun r hr s _ => nodup_step keepFirst r hr s

/-- a key is listed iff something is currently registered under it -/
theorem C02_registry_listed_iff_registered {α} (keepFirst : Bool) (h : List (Registry.Step α)) (key : Text) :
    key ∈ Registry.names (Registry.run keepFirst h) ↔ (Registry.current keepFirst h key).isSome = true := by
  rw [← C02_registry_holds_current, find_isSome_iff_mem]

/-- the foil: a listing served from a snapshot that is refreshed only when the SET of keys changes shows the OLD descriptor
    after register - list - re-register (what the listing must show is `v2`) -/
theorem C02_registry_stale_snapshot_counterexample :
    Registry.find (Registry.run false [.reg t!"a" t!"v1", .reg t!"a" t!"v2"]) t!"a" = some t!"v2"
      ∧ Registry.find (Registry.run false [.reg t!"a" t!"v1"]) t!"a" ≠ some t!"v2" := by
  decide

/-- non-vacuity: register, re-register, a second key, unregister, register again (moves to the end), a refused template -/
example :
    Registry.run false [.reg t!"a" 1, .reg t!"b" 1, .reg t!"a" 2, .unreg [t!"a", t!"x"], .reg t!"c" 1, .reg t!"a" 3, .reg t!"b" 2]
        = [(t!"b", 2), (t!"c", 1), (t!"a", 3)]
      ∧ Registry.run true [.reg t!"t" 1, .reg t!"u" 1, .reg t!"t" 2] = [(t!"t", 1), (t!"u", 1)] := by
  decide

end Mcp.Props.C02
