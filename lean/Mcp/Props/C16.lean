/-
  C16 — Handshake: version negotiation, advertised capabilities, client state machine.
-/
import Mcp.Model.Lifecycle
import Mcp.Gen.LifecycleFacts
namespace Mcp.Props.C16
open Mcp.Str Mcp.Lifecycle

/-! ## server: version negotiation (every version string, every supported list) -/

theorem select_eq (sup : List Text) (d v : Text) : select sup d v = if v ∈ sup then v else d := by
  induction sup with
  | nil => rfl
  | cons s rest ih =>
    simp only [select, ih]
    by_cases hs : s = v
    · simp [hs]
    · simp [hs, Ne.symm hs]

/-- A supported request is answered with itself. -/
theorem C16_select_supported (sup : List Text) (d v : Text) (h : v ∈ sup) : select sup d v = v := by
  rw [select_eq, if_pos h]

/-- Any other request is answered with the default. -/
theorem C16_select_unsupported (sup : List Text) (d v : Text) (h : v ∉ sup) : select sup d v = d := by
  rw [select_eq, if_neg h]

/-- Never a version outside the supported list, whatever the client asks for. -/
theorem C16_version (sup : List Text) (d v : Text) (hd : d ∈ sup) : select sup d v ∈ sup := by
  rw [select_eq]; split <;> assumption

/-- The regenerated lists: the default is supported, it is the latest (greatest date), the list the package exports
    names the same versions, and nothing replaces the lists after construction. -/
theorem C16_versions_fact :
    Mcp.Gen.defaultProtocolVersion ∈ Mcp.Gen.supportedVersions ∧
    (Mcp.Gen.supportedVersions.all (fun s => lexLe s Mcp.Gen.defaultProtocolVersion)) = true ∧
    (Mcp.Gen.supportedVersions.all (fun s => Mcp.Gen.publicSupportedVersions.contains s)) = true ∧
    (Mcp.Gen.publicSupportedVersions.all (fun s => Mcp.Gen.supportedVersions.contains s)) = true ∧
    Mcp.Gen.lifecycleOverridesUsed = false := by decide

/-- The statement's first sentence on today's lists: the requested version when supported, otherwise the latest,
    never an unsupported one. -/
theorem C16_negotiation (v : Text) :
    select Mcp.Gen.supportedVersions Mcp.Gen.defaultProtocolVersion v ∈ Mcp.Gen.supportedVersions ∧
    (v ∈ Mcp.Gen.supportedVersions → select Mcp.Gen.supportedVersions Mcp.Gen.defaultProtocolVersion v = v) ∧
    (v ∉ Mcp.Gen.supportedVersions →
      select Mcp.Gen.supportedVersions Mcp.Gen.defaultProtocolVersion v = Mcp.Gen.defaultProtocolVersion ∧
      ∀ s ∈ Mcp.Gen.supportedVersions, lexLe s (select Mcp.Gen.supportedVersions Mcp.Gen.defaultProtocolVersion v) = true) := by
  refine ⟨C16_version _ _ _ C16_versions_fact.1, C16_select_supported _ _ _, ?_⟩
  intro h
  rw [C16_select_unsupported _ _ _ h]
  exact ⟨rfl, fun s hs => List.all_eq_true.mp C16_versions_fact.2.1 s hs⟩

/-- non-vacuity: a near miss of a supported version gets the latest; the older supported version is kept. -/
example : select Mcp.Gen.supportedVersions Mcp.Gen.defaultProtocolVersion t!"2024-11-05 " = t!"2025-03-26" ∧
    select Mcp.Gen.supportedVersions Mcp.Gen.defaultProtocolVersion t!"2024-11-05" = t!"2024-11-05" ∧
    select Mcp.Gen.supportedVersions Mcp.Gen.defaultProtocolVersion [] = t!"2025-03-26" := by decide

/-! ## server: name, version, capabilities -/

/-- The answer carries the configured name and version and the negotiated protocol. -/
theorem C16_server_info (c : SrvCfg) (r : Registry) (v : Text) :
    (answerInit c r v).name = c.name ∧ (answerInit c r v).version = c.version ∧
    (answerInit c r v).protocol = select c.supported c.dflt v := ⟨rfl, rfl, rfl⟩

/-- Tools always; prompts / resources exactly when the table is non-empty. -/
theorem C16_caps (r : Registry) :
    (capabilities r).tools = true ∧
    ((capabilities r).prompts = true ↔ r.prompts ≠ []) ∧
    ((capabilities r).resources = true ↔ r.resources ≠ []) := by
  refine ⟨rfl, ?_, ?_⟩ <;> simp [capabilities, List.length_pos_iff]

private theorem insertKey_ne_nil (l : List Text) (k : Text) : insertKey l k ≠ [] ↔ (l ≠ [] ∨ k ≠ []) := by
  unfold insertKey
  by_cases hk : k = []
  · simp [hk]
  · by_cases hm : k ∈ l
    · simp [hm, List.ne_nil_of_mem hm]
    · simp [hk, hm]

private theorem registryAfter_ne_nil (r : Registry) (ops : List SOp) :
    ((registryAfter r ops).prompts ≠ [] ↔ r.prompts ≠ [] ∨ ∃ n, n ≠ [] ∧ SOp.reg (.prompt n) ∈ ops) ∧
    ((registryAfter r ops).resources ≠ [] ↔ r.resources ≠ [] ∨ ∃ u, u ≠ [] ∧ SOp.reg (.resource u) ∈ ops) := by
  induction ops generalizing r with
  | nil => simp [registryAfter]
  | cons op ops ih =>
    match op with
    -- the head is one more witness exactly when its key is non-empty, which is when `insertKey` leaves a non-empty table
    | .reg (.prompt n) =>
      simp [registryAfter, ih, Registry.apply, insertKey_ne_nil, or_assoc, and_or_left, exists_or]
    | .reg (.resource u) =>
      simp [registryAfter, ih, Registry.apply, insertKey_ne_nil, or_assoc, and_or_left, exists_or]
    | .reg (.tool _) | .reg (.untool _) | .reg (.template _) | .init _ => simp [registryAfter, ih, Registry.apply]

private theorem serverRun_append (c : SrvCfg) (r : Registry) (pre post : List SOp) :
    serverRun c r (pre ++ post) = serverRun c r pre ++ serverRun c (registryAfter r pre) post := by
  induction pre generalizing r with
  | nil => simp [serverRun, registryAfter]
  | cons op pre ih => cases op <;> simp [serverRun, registryAfter, ih]

/-- Every initialize answer of a history is computed from the registry *at that time*: the answer that follows the
    operations `pre` is the answer for the registry `pre` leaves behind. -/
theorem C16_answer_at_time (c : SrvCfg) (pre : List SOp) (v : Text) (post : List SOp) :
    (serverRun c {} (pre ++ .init v :: post))[(serverRun c {} pre).length]? =
      some (answerInit c (registryAfter {} pre) v) := by
  rw [serverRun_append]; simp [serverRun]

/-- … so, from an empty server: prompts (resources) are advertised exactly when some earlier operation registered a
    prompt (resource) under a non-empty key; tools always — for every history of registrations and initializes. -/
theorem C16_caps_at_time (c : SrvCfg) (pre : List SOp) (v : Text) :
    let a := answerInit c (registryAfter {} pre) v
    a.caps.tools = true ∧
    (a.caps.prompts = true ↔ ∃ n, n ≠ [] ∧ SOp.reg (.prompt n) ∈ pre) ∧
    (a.caps.resources = true ↔ ∃ u, u ≠ [] ∧ SOp.reg (.resource u) ∈ pre) := by
  have h := registryAfter_ne_nil {} pre
  exact ⟨rfl, (C16_caps _).2.1.trans (by simpa using h.1), (C16_caps _).2.2.trans (by simpa using h.2)⟩

/-- non-vacuity: registrations changing between two initializes change the second answer only. -/
example : (serverRun ⟨t!"s", t!"1", Mcp.Gen.supportedVersions, Mcp.Gen.defaultProtocolVersion⟩ {}
      [.init t!"x", .reg (.prompt t!"p"), .reg (.template t!"t"), .reg (.resource []), .init t!"2024-11-05"]).map
      (fun a => (a.protocol, a.caps)) =
    [(t!"2025-03-26", ⟨true, false, false⟩), (t!"2024-11-05", ⟨true, true, false⟩)] := by decide

/-! ## server: several initializes on one session -/

private theorem registryAfter_eq_foldl (r : Registry) (ops : List SOp) :
    registryAfter r ops = (ops.filterMap regOf).foldl Registry.apply r := by
  induction ops generalizing r with
  | nil => rfl
  | cons op ops ih => cases op <;> simp [registryAfter, regOf, ih, List.filterMap_cons]

/-- An initialize that follows any history `pre` — earlier initializes with whatever versions included, on the same
    session or not: the model of the server has no per-session version — leaves the earlier answers alone and is answered
    from its own requested version and the registry of that moment only. -/
theorem C16_reinitialize (c : SrvCfg) (pre : List SOp) (v : Text) :
    serverRun c {} (pre ++ [.init v]) = serverRun c {} pre ++ [answerInit c (registryAfter {} pre) v] ∧
    (answerInit c (registryAfter {} pre) v).protocol = select c.supported c.dflt v := by
  refine ⟨?_, rfl⟩
  rw [serverRun_append]; rfl

/-- The answer does not depend on earlier initializes: two histories with the same registrations in the same order, and
    any initializes whatsoever in between, end with the same answer to a final `initialize v`. -/
theorem C16_answer_independent_of_earlier_initializes (c : SrvCfg) (pre pre' : List SOp) (v : Text)
    (h : pre.filterMap regOf = pre'.filterMap regOf) :
    (serverRun c {} (pre ++ [.init v])).getLast? = (serverRun c {} (pre' ++ [.init v])).getLast? ∧
    (serverRun c {} (pre ++ [.init v])).getLast? = some (answerInit c (registryAfter {} pre) v) := by
  rw [(C16_reinitialize c pre v).1, (C16_reinitialize c pre' v).1]
  simp [registryAfter_eq_foldl, h]

/-- On today's lists: whatever was negotiated before, a supported request is answered with itself and any other with
    the latest version. -/
theorem C16_reinitialize_version (name ver : Text) (pre : List SOp) (v : Text) :
    ∃ a, (serverRun ⟨name, ver, Mcp.Gen.supportedVersions, Mcp.Gen.defaultProtocolVersion⟩ {} (pre ++ [.init v])).getLast? = some a ∧
      (v ∈ Mcp.Gen.supportedVersions → a.protocol = v) ∧
      (v ∉ Mcp.Gen.supportedVersions → a.protocol = Mcp.Gen.defaultProtocolVersion) := by
  exact ⟨_, (C16_answer_independent_of_earlier_initializes _ pre pre v rfl).2, (C16_negotiation v).2.1,
    fun h => ((C16_negotiation v).2.2 h).1⟩

/-- The structure the absence of session state in the model rests on (regenerated): `handleInitialize` passes
    `selectSupportedVersion(requested)` unchanged to `buildInitializeResponse`, which stores it unchanged. -/
theorem C16_version_flow_fact : Mcp.Gen.initializeVersionDirect = true := by decide

/-- non-vacuity: newer then older, unsupported (falls back to the latest) then older, older then newer, and strings
    sorting below / above the supported ones in between — every answer follows its own request. -/
example : (serverRun ⟨t!"s", t!"1", Mcp.Gen.supportedVersions, Mcp.Gen.defaultProtocolVersion⟩ {}
      [.init t!"2025-03-26", .init t!"2024-11-05", .init t!"9999-12-31", .init t!"2024-11-05", .init t!"1999-01-01",
       .init t!"2025-03-26", .init [], .init t!"2024-11-05"]).map (fun a => a.protocol) =
    [t!"2025-03-26", t!"2024-11-05", t!"2025-03-26", t!"2024-11-05", t!"2025-03-26", t!"2025-03-26", t!"2025-03-26",
     t!"2024-11-05"] := by decide

/-! ## server: concurrent initializes -/

/-- With the good shape (one store of the finished map, in the only critical section; locked reader; nobody else) a
    handshake reads the finished map whatever the other handshakes of that server stored in between. -/
theorem C16_concurrent_caps (s : UpdShape) (hs : s.ok = true) (r : Registry) (others : List Caps)
    (h : ∀ x ∈ others, x ∈ storesOf s r) : readAfter (capabilities r) others = capabilities r := by
  unfold readAfter
  cases hl : others.getLast? with
  | none => rfl
  | some x => simpa [storesOf, hs] using h x (List.mem_of_getLast? hl)

/-- Today's `updateCapabilities` / `buildInitializeResponse` have that shape (regenerated). -/
theorem C16_update_shape_fact : Mcp.Gen.updateCapabilitiesShape.ok = true := by decide

/-- … so every answer, also one computed while other clients shake hands, advertises tools, and prompts / resources
    exactly when the table is non-empty. -/
theorem C16_concurrent_caps_real (r : Registry) (others : List Caps)
    (h : ∀ x ∈ others, x ∈ storesOf Mcp.Gen.updateCapabilitiesShape r) :
    let a := readAfter (capabilities r) others
    a.tools = true ∧ (a.prompts = true ↔ r.prompts ≠ []) ∧ (a.resources = true ↔ r.resources ≠ []) := by
  simp only [C16_concurrent_caps _ C16_update_shape_fact r others h]
  exact C16_caps r

/-- The shape the fact rejects — "reset to the base map, unlock, ask the registries, lock, store the full map": another
    handshake's first store can be the last one before the read, and the answer lacks a registered kind. -/
theorem C16_split_update_witness :
    let s : UpdShape := ⟨2, 0, 0, 2, false, true, 0⟩
    let r : Registry := { prompts := [t!"p"], resources := [t!"u"] }
    s.ok = false ∧ ∃ others, (∀ x ∈ others, x ∈ storesOf s r) ∧
      (readAfter (capabilities r) others).prompts = false ∧ (readAfter (capabilities r) others).resources = false := by
  exact ⟨by decide, [baseCaps], by decide⟩

/-! ## server: list filters -/

/-- With the good shape (`updateCapabilities` consults exactly the two unfiltered registry readers) the advertised
    capabilities do not depend on the caller or on any list filter: whatever `view` a caller's filters give it of the
    registry, the answer carries the capabilities of the registry itself. -/
theorem C16_caps_independent_of_filter (s : CapSources) (hs : s.ok = true) (view : Registry → Registry) (r : Registry) :
    capabilitiesSeen s view r = capabilities r := by
  simp [capabilitiesSeen, hs]

/-- Today's `updateCapabilities` calls `promptManager.getPrompts` and `resourceManager.getResources`, both plain
    registry readers (no parameter, no filter), nothing else, and takes nothing caller-dependent (regenerated). -/
theorem C16_capabilities_from_registries_fact : Mcp.Gen.capabilitySources.ok = true := by decide

/-- … so on any server, for any two callers (admin, guest, header-less: any views), after any history of registrations
    and initializes, the answer is the same and is the one of the filter-less model: prompts / resources exactly when a
    prompt / resource with a non-empty key has been registered. -/
theorem C16_caps_independent_of_filter_real (view view' : Registry → Registry) (pre : List SOp) :
    let r := registryAfter {} pre
    capabilitiesSeen Mcp.Gen.capabilitySources view r = capabilitiesSeen Mcp.Gen.capabilitySources view' r ∧
    capabilitiesSeen Mcp.Gen.capabilitySources view r = capabilities r ∧
    ((capabilitiesSeen Mcp.Gen.capabilitySources view r).prompts = true ↔ ∃ n, n ≠ [] ∧ SOp.reg (.prompt n) ∈ pre) ∧
    ((capabilitiesSeen Mcp.Gen.capabilitySources view r).resources = true ↔ ∃ u, u ≠ [] ∧ SOp.reg (.resource u) ∈ pre) := by
  intro r
  have h := C16_caps_independent_of_filter _ C16_capabilities_from_registries_fact
  rw [h view, h view']
  exact ⟨rfl, rfl, (C16_caps_at_time ⟨[], [], [], []⟩ pre []).2⟩

/-- The shape the fact rejects — the capabilities decided from `listPrompts(ctx)` / `listResources(ctx)`, the registry
    narrowed by the caller's list filter: a caller whose filter hides everything is told there are no prompts and no
    resources although both are registered, while another caller of the same server is told there are. -/
theorem C16_filtered_view_witness :
    let s : CapSources := ⟨[⟨t!"promptManager", t!"listPrompts", false⟩, ⟨t!"resourceManager", t!"listResources", false⟩], 0, 1, true⟩
    let r : Registry := { prompts := [t!"p"], resources := [t!"u"] }
    s.ok = false ∧
    capabilitiesSeen s (fun _ => {}) r = ⟨true, false, false⟩ ∧ capabilitiesSeen s id r = ⟨true, true, true⟩ ∧
    capabilities r = ⟨true, true, true⟩ := by decide

/-! ## client: single steps -/

private theorem step_silent {G : Guards} {k : Kind} {sm sm' : ClientSM} {op : Op} {r : Res}
    (h : stepRaw G k sm op = (sm', r, [])) : step G k sm op = (sm', r, []) := by
  rw [step, h]; rfl

/-- Before a successful handshake a guarded request operation fails with not-initialized, puts nothing on the wire and
    changes nothing (the wire counter included) — every kind, every state. -/
theorem C16_guard (G : Guards) (k : Kind) (sm : ClientSM) (o : OpK) (f : Bool)
    (hg : G.req o = true) (hi : sm.initialized = false) :
    step G k sm (.req o f) = (sm, .notInitialized, []) :=
  step_silent (by simp [stepRaw, stepReq, hg, hi])

/-- The same for `SendRootsListChangedNotification` where it has a guard (`G.roots`): before a successful handshake it
    fails with not-initialized, sends nothing and changes nothing. -/
theorem C16_guard_roots (G : Guards) (k : Kind) (sm : ClientSM) (hg : G.roots = true) (hi : sm.initialized = false) :
    step G k sm .rootsChanged = (sm, .notInitialized, []) :=
  step_silent (by simp [stepRaw, stepRoots, hg, hi])

/-- A second Initialize is refused, without traffic and without any change, whatever the environment would do. -/
theorem C16_second_init_refused (G : Guards) (k : Kind) (sm : ClientSM) (e : InitEnv) (hi : sm.initialized = true) :
    step G k sm (.init e) = (sm, .alreadyInitialized, []) :=
  step_silent (by simp [stepRaw, stepInit, hi])

/-- A Close that gets as far as the reset: always, when Close resets on every path; otherwise when the transport's
    close() reported no error. -/
private theorem step_close {G : Guards} {k : Kind} {sm : ClientSM} {f : Bool} (h : G.closeResets = true ∨ f = false) :
    step G k sm (.close f) = (stepClose k sm, if f then .failed else .ok, []) :=
  step_silent (by rcases h with h | h <;> simp [stepRaw, stepCloseOp, h])

/-- After Close — error-free, or with the transport's close() reporting an error (`f`) — the client is uninitialized and
    reports disconnected, nothing was put on the wire, and the result is the transport's (Close resets on every path:
    `G.closeResets`). -/
theorem C16_close_resets (G : Guards) (k : Kind) (sm : ClientSM) (f : Bool) (hc : G.closeResets = true) :
    (step G k sm (.close f)).1.initialized = false ∧ (step G k sm (.close f)).1.state = .disconnected ∧
    (step G k sm (.close f)).2 = (if f then .failed else .ok, []) := by
  rw [step_close (.inl hc)]
  cases k <;> exact ⟨rfl, rfl, rfl⟩

/-- An error-free Close resets whatever the shape of Close is. -/
theorem C16_close_ok_resets (G : Guards) (k : Kind) (sm : ClientSM) :
    (step G k sm (.close false)).1.initialized = false ∧ (step G k sm (.close false)).1.state = .disconnected ∧
    (step G k sm (.close false)).2 = (.ok, []) := by
  rw [step_close (.inr rfl)]
  cases k <;> exact ⟨rfl, rfl, rfl⟩

/-- "Uninitialized again after Close", whatever Close returned: the next request operation fails with not-initialized
    and touches nothing — every kind, every state before, both outcomes of the transport's close(). -/
theorem C16_after_close_refused (G : Guards) (k : Kind) (sm : ClientSM) (f : Bool) (o : OpK) (g : Bool)
    (hc : G.closeResets = true) (hg : G.req o = true) :
    step G k (step G k sm (.close f)).1 (.req o g) = ((step G k sm (.close f)).1, .notInitialized, []) :=
  C16_guard G k _ o g hg (C16_close_resets G k sm f hc).1

/-- The streamable transport reopens: after any Close a handshake in a benign environment succeeds again;
    the legacy SSE and the stdio transport close for good: it fails, without traffic, and the client stays uninitialized. -/
theorem C16_init_after_close (G : Guards) (k : Kind) (sm : ClientSM) (f : Bool) (hc : G.closeResets = true) :
    let o := step G k (step G k sm (.close f)).1 (.init .ok)
    (k = .streamable → o.2.1 = .ok ∧ o.1.initialized = true ∧ o.1.state = .initialized) ∧
    (k ≠ .streamable → o.2 = (.failed, []) ∧ o.1.initialized = false ∧ o.1.state = .disconnected) := by
  rw [step_close (.inl hc)]
  cases k <;> simp [step, stepRaw, stepClose, stepInit, envValid, initStages, succeedInit, failInit]

/-- What a call that does not move the life cycle leaves alone. -/
private structure Keeps (sm sm' : ClientSM) : Prop where
  flag : sm'.initialized = sm.initialized
  state : sm'.state = sm.state
  closed : sm'.closed = sm.closed
  started : sm.started = true → sm'.started = true
  sends : sm'.sends = sm.sends

private theorem keeps_refl (sm : ClientSM) : Keeps sm sm := ⟨rfl, rfl, rfl, id, rfl⟩

private theorem keeps_started (sm : ClientSM) : Keeps sm { sm with started := true } := ⟨rfl, rfl, rfl, fun _ => rfl, rfl⟩

private theorem initStages_spec (sm : ClientSM) (pre : List Msg) (e : InitEnv) (s : Bool) (hi : sm.initialized = false) :
    let o := initStages sm pre e s
    o.1.sends = sm.sends ∧ o.1.started = sm.started ∧ o.1.closed = sm.closed ∧
    (∀ x ∈ o.2.2, x ∈ pre ∨ x = .initReq ∨ x = .initNotif ∧ (e = .ok ∨ e = .dropNotif)) ∧
    (o.2.1 = .ok ∧ e = .ok ∧ o.1.initialized = true ∧ o.1.state = .initialized ∨
     o.2.1 = .failed ∧ o.1.initialized = false ∧ o.1.state = .disconnected) := by
  cases e <;> simp [initStages, failInit, succeedInit, hi]

/-- What an `Initialize` that is not refused comes to; the counter is left to `step`. -/
private structure Handshake (k : Kind) (sm : ClientSM) (e : InitEnv) (o : Out) : Prop where
  sends : o.1.sends = sm.sends
  log : ∀ x ∈ o.2.2, x = .get ∨ x = .initReq ∨ x = .initNotif ∧ (e = .ok ∨ e = .dropNotif)
  outcome : o.2.1 = .ok ∧ e = .ok ∧ o.1.initialized = true ∧ o.1.state = .initialized ∧
      (k ≠ .streamable → o.1.started = true ∧ o.1.closed = false) ∨
    o.2.1 = .failed ∧ o.1.initialized = false ∧ o.1.state = .disconnected

private theorem stepInit_spec {k : Kind} {sm : ClientSM} {e : InitEnv} (hi : sm.initialized = false) (hv : envValid k e = true) :
    Handshake k sm e (stepInit k sm e) := by
  have broke : ∀ log, (∀ x ∈ log, x = Msg.get) → Handshake k sm e (failInit sm log) :=
    fun log hl => ⟨rfl, fun x hx => Or.inl (hl x hx), Or.inr ⟨rfl, hi, rfl⟩⟩
  -- the stages, on a transport `sm0` that is started and open (or is the streamable one)
  have stages : ∀ (sm0 : ClientSM) pre s, sm0.initialized = false → sm0.sends = sm.sends → (∀ x ∈ pre, x = Msg.get) →
      (k ≠ .streamable → sm0.started = true ∧ sm0.closed = false) → Handshake k sm e (initStages sm0 pre e s) := by
    intro sm0 pre s h0 hs hpre ht
    obtain ⟨sends, started, closed, log, out⟩ := initStages_spec sm0 pre e s h0
    refine ⟨sends.trans hs, fun x hx => (log x hx).imp_left (hpre x), out.imp_left fun ⟨h1, h2, h3, h4⟩ => ⟨h1, h2, h3, h4, ?_⟩⟩
    rw [started, closed]
    exact ht
  simp only [stepInit, hi, hv]
  cases k with
  | streamable => exact stages sm [] true hi rfl (by simp) (fun h => absurd rfl h)
  | sse =>
    cases hc : sm.closed with
    | true => exact broke [] (by simp)
    | false =>
      cases hs : sm.started with
      | true => exact stages sm [] false hi rfl (by simp) (fun _ => ⟨hs, hc⟩)
      | false =>
        by_cases he : e = .netErr
        · simp only [he]
          exact he ▸ broke [.get] (by simp)
        · simp only [he]
          exact stages _ [.get] false rfl rfl (by simp) (fun _ => ⟨rfl, rfl⟩)
  | stdio =>
    cases hc : sm.closed with
    | true => exact broke [] (by simp)
    | false => exact stages _ [] false rfl rfl (by simp) (fun _ => ⟨rfl, rfl⟩)

/-- An Initialize that is not refused either succeeds — only when every stage succeeded — and the client is
    initialized, or breaks at some stage and the client is uninitialized and reports disconnected. -/
theorem C16_init_outcome (G : Guards) (k : Kind) (sm : ClientSM) (e : InitEnv) (hi : sm.initialized = false)
    (hv : envValid k e = true) :
    let o := step G k sm (.init e)
    (o.2.1 = .ok ∧ e = .ok ∧ o.1.initialized = true ∧ o.1.state = .initialized) ∨
    (o.2.1 = .failed ∧ o.1.initialized = false ∧ o.1.state = .disconnected) :=
  (stepInit_spec hi hv).outcome.imp_left fun ⟨h1, h2, h3, h4, _⟩ => ⟨h1, h2, h3, h4⟩

private theorem stepInit_cases (k : Kind) (sm : ClientSM) (e : InitEnv) :
    (∃ r, stepInit k sm e = (sm, r, []) ∧ (r = .alreadyInitialized ∨ r = .na)) ∨
    Handshake k sm e (stepInit k sm e) := by
  cases hi : sm.initialized with
  | true => exact .inl ⟨_, by simp [stepInit, hi], .inl rfl⟩
  | false =>
    cases hv : envValid k e with
    | false => exact .inl ⟨_, by simp [stepInit, hi, hv], .inr rfl⟩
    | true => exact .inr (stepInit_spec hi hv)

/-- A failed handshake leaves the client uninitialized (stated on the result alone). -/
theorem C16_failed_init_resets (G : Guards) (k : Kind) (sm : ClientSM) (e : InitEnv)
    (h : (step G k sm (.init e)).2.1 = .failed) :
    (step G k sm (.init e)).1.initialized = false ∧ (step G k sm (.init e)).1.state = .disconnected := by
  change (stepInit k sm e).2.1 = .failed at h
  rcases stepInit_cases k sm e with ⟨r, hs, hr⟩ | ho
  · rw [hs] at h
    rcases hr with rfl | rfl <;> cases h
  · rcases ho.outcome with ⟨h1, _⟩ | ⟨_, h2⟩
    · rw [h1] at h; cases h
    · exact h2

/-- A handshake that breaks at the request or at its answer — network failure, HTTP 500, no usable answer, a refusal
    (also one that carries a `result` next to its `error`), an unparsable result — puts no `notifications/initialized`
    on the wire: on every kind, in every state. -/
theorem C16_no_initialized_notification_after_refusal (G : Guards) (k : Kind) (sm : ClientSM) (e : InitEnv)
    (h1 : e ≠ .ok) (h2 : e ≠ .dropNotif) : Msg.initNotif ∉ (step G k sm (.init e)).2.2 := by
  show Msg.initNotif ∉ (stepInit k sm e).2.2
  rcases stepInit_cases k sm e with ⟨r, hs, _⟩ | ho
  · simp [hs]
  · intro hm
    rcases ho.log _ hm with h | h | ⟨_, h | h⟩
    · cases h
    · cases h
    · exact h1 h
    · exact h2 h

/-- non-vacuity: the answer never comes (stdio), a refusal, then a good handshake: the request is the only message of
    each broken handshake, operations in between are refused without traffic. -/
example : trace Guards.all .stdio {} [.init .noAnswer, .req .listTools false, .init .rpcErr, .rootsChanged, .init .ok, .req .listTools false] =
    [(.failed, .disconnected, [.initReq]), (.notInitialized, .disconnected, []), (.failed, .disconnected, [.initReq]),
     (.notInitialized, .disconnected, []), (.ok, .initialized, [.initReq, .initNotif]), (.ok, .initialized, [.req .listTools])] := by decide

/-- streamable: no answer teaches the client no session id (TerminateSession then has nothing to delete), a refusal does. -/
example : trace Guards.all .streamable {} [.init .noAnswer, .terminate false, .init .rpcErr, .terminate false] =
    [(.failed, .disconnected, [.initReq]), (.failed, .disconnected, []), (.failed, .disconnected, [.initReq]),
     (.ok, .disconnected, [.delete])] := by decide

/-! ## client: an answer that carries an `error` member is a refusal -/

/-- Whenever the chain starts with the `error` test, a message with an id and an `error` member is an error response,
    whatever else it carries (a `result`, null or not, in particular). -/
theorem C16_error_member_wins (chain : List (Text × Text)) (rest : List (Text × Text))
    (h : chain = (t!"error", t!"JSONRPCMessageTypeError") :: rest) (members : List Text) (he : t!"error" ∈ members) :
    classifyById chain members = t!"JSONRPCMessageTypeError" := by
  subst h; simp [classifyById, he]

/-- Today's `parseJSONRPCMessageType` tests `error` first, then `result` (regenerated). -/
theorem C16_message_type_chain_fact :
    Mcp.Gen.messageTypeChain =
      [(t!"error", t!"JSONRPCMessageTypeError"), (t!"result", t!"JSONRPCMessageTypeResponse")] := by decide

/-- … so today's `parseJSONRPCMessageType` takes every message with an id and an `error` member for an error response,
    also one that carries a `result` (null or not) next to it. -/
theorem C16_error_member_wins_real (members : List Text) (he : t!"error" ∈ members) :
    classifyById Mcp.Gen.messageTypeChain members = t!"JSONRPCMessageTypeError" :=
  C16_error_member_wins _ _ C16_message_type_chain_fact members he

/-- The order the fact rejects (`result` tested first): a refusal that also carries a `result` member is taken for a
    success response — the stdio transport then hands `Initialize` a result and the handshake "succeeds". -/
theorem C16_result_first_witness :
    classifyById [(t!"result", t!"JSONRPCMessageTypeResponse"), (t!"error", t!"JSONRPCMessageTypeError")]
      [t!"jsonrpc", t!"id", t!"result", t!"error"] = t!"JSONRPCMessageTypeResponse" := by decide

/-- Both `Initialize` functions test `isErrorResponse` (which looks at the `error` member only) in a top-level `if`
    whose every path returns an error, before they parse the result (regenerated). -/
theorem C16_refusal_checked_first_fact :
    Mcp.Gen.refusalCheckedFirst = [(t!"Client", true), (t!"StdioClient", true)] := by decide

/-! ## client: invariants over all histories -/

/-- Flag and reported state agree; `connected` is never reported between calls; an initialized client of a closing
    transport (sse, stdio) has a started, open transport. -/
def Inv (k : Kind) (sm : ClientSM) : Prop :=
  (sm.state = .initialized ↔ sm.initialized = true) ∧ sm.state ≠ .connected ∧
  (sm.initialized = true → k ≠ .streamable → sm.started = true ∧ sm.closed = false)

private theorem xmitRequest_keeps {k : Kind} {sm sm' : ClientSM} {m : Msg} {log : List Msg}
    (h : xmitRequest k sm m = some (sm', log)) : Keeps sm sm' ∧ ∀ x ∈ log, x = .get ∨ x = m := by
  cases k <;> simp only [xmitRequest] at h
  case streamable => cases h; simp [keeps_refl]
  case sse =>
    split at h
    · cases h
    · split at h <;> cases h <;> simp [keeps_refl, keeps_started]
  case stdio =>
    split at h
    · cases h
    · cases h; simp [keeps_started]

private theorem xmitNotification_keeps {k : Kind} {sm sm' : ClientSM} {m : Msg} {log : List Msg}
    (h : xmitNotification k sm m = some (sm', log)) : Keeps sm sm' ∧ log = [m] := by
  cases k <;> simp only [xmitNotification] at h
  case streamable => cases h; simp [keeps_refl]
  case sse => split at h <;> cases h; simp [keeps_refl]
  case stdio =>
    split at h
    · cases h
    · cases h; simp [keeps_started]

/-- **The four kinds of call.** Quiet: requests, notifications, TerminateSession and every refusal leave the life cycle
    alone, and a request reaches the wire only past its guard. A handshake. A reset: Close and RestartProcess. A botched
    Close, where Close does not reset on every path: it returned before the reset.
    Stated of `stepRaw`: `step` only adds the length of the log to the counter, so every clause but `sends` reads the same
    of `step` (by definition: the corollaries open with `show`). -/
private inductive Shape (G : Guards) (k : Kind) (sm : ClientSM) (op : Op) (o : Out) : Prop
  | quiet (keeps : Keeps sm o.1) (spec : ∀ s, specState s op o.2.1 = s)
      (guarded : ∀ q, Msg.req q ∈ o.2.2 → G.req q = true → sm.initialized = true)
  | handshake (e : InitEnv) (hop : op = .init e) (h : Handshake k sm e o)
  | reset (spec : ∀ s, specState s op o.2.1 = .disconnected) (flag : o.1.initialized = false)
      (state : o.1.state = .disconnected) (sends : o.1.sends = sm.sends) (log : o.2.2 = [])
  | botched (hG : G.closeResets = false) (flag : o.1.initialized = sm.initialized)
      (sends : o.1.sends = sm.sends) (log : o.2.2 = [])

private theorem Shape.refused {G : Guards} {k : Kind} {sm : ClientSM} {op : Op} {r : Res}
    (spec : ∀ s, specState s op r = s) : Shape G k sm op (sm, r, []) :=
  .quiet (keeps_refl sm) spec (by simp)

private theorem stepNotify_shape {G : Guards} {k : Kind} {sm : ClientSM} {op : Op} {m : Msg}
    (spec : ∀ s r, specState s op r = s) (hm : ∀ q, m ≠ .req q) : Shape G k sm op (stepNotify k sm m) := by
  unfold stepNotify
  cases h : xmitNotification k sm m with
  | none => exact .refused (spec · _)
  | some p =>
    obtain ⟨hk, hl⟩ := xmitNotification_keeps h
    exact .quiet hk (spec · _) (fun q hq => absurd (List.mem_singleton.mp (hl ▸ hq)).symm (hm q))

private theorem stepRaw_shape (G : Guards) (k : Kind) (sm : ClientSM) (op : Op) : Shape G k sm op (stepRaw G k sm op) := by
  cases op with
  | init e =>
    rw [stepRaw]
    rcases stepInit_cases k sm e with ⟨r, hs, hr⟩ | h
    · rw [hs]
      exact .refused (by rcases hr with rfl | rfl <;> exact fun _ => rfl)
    · exact .handshake e rfl h
  | req o f =>
    rw [stepRaw, stepReq]
    split
    next => exact .refused (fun _ => rfl)
    next hg =>
      cases h : xmitRequest k sm (.req o) with
      | none => exact .refused (fun _ => rfl)
      | some p =>
        obtain ⟨hk, hl⟩ := xmitRequest_keeps h
        refine .quiet hk (fun _ => rfl) (fun q hq hgq => ?_)
        rcases hl _ hq with hq | hq <;> cases hq
        simpa [hgq] using hg
  | rootsChanged =>
    rw [stepRaw, stepRoots]
    split
    · exact .refused (fun _ => rfl)
    · exact stepNotify_shape (fun _ _ => rfl) (fun _ h => by cases h)
  | sendInitialized =>
    cases k
    case stdio => exact .refused (fun _ => rfl)
    all_goals exact stepNotify_shape (fun _ _ => rfl) (fun _ h => by cases h)
  | terminate tf =>
    cases k <;> simp only [stepRaw]
    case streamable =>
      split
      · split <;> exact .quiet ⟨rfl, rfl, rfl, id, rfl⟩ (fun _ => rfl) (by simp)
      · exact .refused (fun _ => rfl)
    all_goals exact .refused (fun _ => rfl)
  | restart =>
    cases k
    case stdio => exact .reset (fun _ => rfl) rfl rfl rfl rfl
    all_goals exact .refused (fun _ => rfl)
  | close f =>
    simp only [stepRaw, stepCloseOp]
    split
    next h =>
      simp only [Bool.and_eq_true, Bool.not_eq_true'] at h
      cases k <;> exact .botched h.2 rfl rfl rfl
    next => cases k <;> exact .reset (fun _ => rfl) rfl rfl rfl rfl

private theorem inv_of_keeps {k : Kind} {sm sm' : ClientSM} (h : Inv k sm) (hk : Keeps sm sm') : Inv k sm' := by
  simp only [Inv, hk.flag, hk.state, hk.closed]
  exact ⟨h.1, h.2.1, fun hi hs => (h.2.2 hi hs).imp_left hk.started⟩

private theorem inv_of_uninit {k : Kind} {sm : ClientSM} (h1 : sm.initialized = false) (h2 : sm.state = .disconnected) :
    Inv k sm := by
  simp [Inv, h1, h2]

/-- No call on a client of any kind, whatever its outcome, breaks `Inv`, provided Close resets on every path. -/
theorem C16_inv_step (G : Guards) (k : Kind) (sm : ClientSM) (op : Op) (hc : G.closeResets = true) (h : Inv k sm) :
    Inv k (step G k sm op).1 := by
  show Inv k (stepRaw G k sm op).1
  cases stepRaw_shape G k sm op with
  | quiet hk => exact inv_of_keeps h hk
  | handshake e _ out =>
    rcases out.outcome with ⟨_, _, h3, h4, h5⟩ | ⟨_, h2, h3⟩
    · exact ⟨by simp [h3, h4], by simp [h4], fun _ => h5⟩
    · exact inv_of_uninit h2 h3
  | reset _ h1 h2 => exact inv_of_uninit h1 h2
  | botched hG => rw [hc] at hG; cases hG

/-- A client as its constructor leaves it (flag unset, `disconnected`, transport neither started nor closed) satisfies `Inv`. -/
theorem C16_inv_init (k : Kind) : Inv k {} := by simp [Inv]

private theorem final_cons (G : Guards) (k : Kind) (sm : ClientSM) (op : Op) (ops : List Op) :
    final G k sm (op :: ops) = final G k (step G k sm op).1 ops := by
  simp [final, run]

private theorem trace_cons (G : Guards) (k : Kind) (sm : ClientSM) (op : Op) (ops : List Op) :
    trace G k sm (op :: ops) =
      ((step G k sm op).2.1, (step G k sm op).1.state, (step G k sm op).2.2) :: trace G k (step G k sm op).1 ops := by
  simp [trace, run]

/-- Reported state and flag are consistent after every history on every kind of client: `initialized` is reported
    exactly when the flag is set, `connected` is never left behind. -/
theorem C16_state_consistent (G : Guards) (k : Kind) (ops : List Op) (hc : G.closeResets = true) :
    Inv k (final G k {} ops) := by
  suffices ∀ sm, Inv k sm → Inv k (final G k sm ops) from this {} (C16_inv_init k)
  induction ops with
  | nil => exact fun _ h => h
  | cons op ops ih =>
    intro sm h
    rw [final_cons]
    exact ih _ (C16_inv_step G k sm op hc h)

/-- One step moves the reported state exactly as the specification of "what happened" says. -/
theorem C16_state_step (G : Guards) (k : Kind) (sm : ClientSM) (op : Op) (hc : G.closeResets = true) :
    (step G k sm op).1.state = specState sm.state op (step G k sm op).2.1 := by
  show (stepRaw G k sm op).1.state = specState sm.state op (stepRaw G k sm op).2.1
  cases stepRaw_shape G k sm op with
  | quiet hk spec => rw [spec, hk.state]
  | handshake e hop out =>
    subst hop
    rcases out.outcome with ⟨h1, _, _, h4, _⟩ | ⟨h1, _, h3⟩
    · rw [h1, h4]; rfl
    · rw [h1, h3]; rfl
  | reset spec _ h2 => rw [spec, h2]
  | botched hG => rw [hc] at hG; cases hG

/-- The state reported after each call of a history is the specification folded over the results so far:
    initialized exactly while the most recent of {successful Initialize, broken Initialize, Close, RestartProcess} is a
    successful Initialize. -/
theorem C16_state_reflects_history (G : Guards) (k : Kind) (sm : ClientSM) (ops : List Op) (hc : G.closeResets = true) :
    states (trace G k sm ops) = specStates sm.state (ops.zip (results (trace G k sm ops))) := by
  induction ops generalizing sm with
  | nil => simp [trace, run, states, specStates]
  | cons op ops ih =>
    simp only [trace_cons, states, results, List.map_cons, List.zip_cons_cons, specStates]
    rw [← C16_state_step G k sm op hc]
    exact congrArg _ (ih _)

/-! ## client: no operation on the wire before a successful handshake -/

/-- A request message is put on the wire only by an initialized client (all guards in place). -/
theorem C16_request_needs_handshake (G : Guards) (k : Kind) (sm : ClientSM) (op : Op) (o : OpK)
    (hg : ∀ o, G.req o = true) (hm : Msg.req o ∈ (step G k sm op).2.2) : sm.initialized = true := by
  change Msg.req o ∈ (stepRaw G k sm op).2.2 at hm
  cases stepRaw_shape G k sm op with
  | quiet _ _ guarded => exact guarded o hm (hg o)
  | handshake _ _ out => rcases out.log _ hm with h | h | ⟨h, _⟩ <;> cases h
  | reset _ _ _ _ log => rw [log] at hm; cases hm
  | botched _ _ _ log => rw [log] at hm; cases hm

private theorem no_ok_stays_uninit {G : Guards} {k : Kind} {sm : ClientSM} {op : Op}
    (hi : sm.initialized = false) (hop : op ≠ .init .ok) : (step G k sm op).1.initialized = false := by
  show (stepRaw G k sm op).1.initialized = false
  cases stepRaw_shape G k sm op with
  | quiet hk => rw [hk.flag, hi]
  | handshake e he out =>
    rcases out.outcome with ⟨_, rfl, _⟩ | ⟨_, h, _⟩
    · exact absurd he hop
    · exact h
  | reset _ h => exact h
  | botched _ h => rw [h, hi]

/-- A history without an `Initialize` in the benign environment — handshakes that break, operations, notifications, Close
    in any order and number — puts no operation request on the wire, on any kind of client. -/
theorem C16_no_request_before_handshake (G : Guards) (k : Kind) (ops : List Op)
    (hg : ∀ o, G.req o = true) (hno : Op.init .ok ∉ ops) (o : OpK) : Msg.req o ∉ wire G k {} ops := by
  suffices ∀ sm, sm.initialized = false → Msg.req o ∉ wire G k sm ops from this {} rfl
  induction ops with
  | nil => intro sm _; simp [wire, trace, run]
  | cons op ops ih =>
    intro sm hi
    rw [List.mem_cons, not_or] at hno
    simp only [wire, trace_cons, List.flatMap_cons, List.mem_append, not_or]
    refine ⟨fun hm => ?_, ih hno.2 _ (no_ok_stays_uninit hi (Ne.symm hno.1))⟩
    rw [C16_request_needs_handshake G k sm op o hg hm] at hi
    cases hi

/-- The wire counter counts exactly the messages of the log. -/
theorem C16_sends_counts_wire (G : Guards) (k : Kind) (sm : ClientSM) (ops : List Op) :
    (final G k sm ops).sends = sm.sends + (wire G k sm ops).length := by
  induction ops generalizing sm with
  | nil => simp [final, wire, trace, run]
  | cons op ops ih =>
    rw [final_cons, ih]
    simp only [wire, trace_cons, List.flatMap_cons, List.length_append]
    have : (stepRaw G k sm op).1.sends = sm.sends := by
      cases stepRaw_shape G k sm op with
      | quiet hk => exact hk.sends
      | handshake _ _ h => exact h.sends
      | reset _ _ _ h => exact h
      | botched _ _ h => exact h
    simp only [step]
    omega

/-! ## the regenerated facts about the client sources -/

/-- The statement in full: every exported method of `Client` / `StdioClient` that puts a request or a notification on
    the wire is guarded.  False on the tree where `SendRootsListChangedNotification` has no guard (D26): see
    `C16_ops_guarded_partial` and `C16_unguarded_roots_witness`. -/
def AllOpsGuarded (facts : List OpFact) : Prop :=
  ∀ f ∈ facts, (f.cls = 2 ∨ f.cls = 3) → f.guarded = true

/-- What holds of today's source: every request operation is guarded, every method is recognised, and the only
    unguarded notification operations are the roots notification(s) (the finding). -/
theorem C16_ops_guarded_partial :
    (Mcp.Gen.clientOps.all (fun f =>
      (f.cls != 2 || f.guarded) && f.cls != 4 && f.cls ≤ 4 &&
      (f.cls != 3 || f.guarded || f.name == t!"SendRootsListChangedNotification"))) = true := by decide

/-- The six request operations of the model are guarded on both client types, as read from the source today. -/
theorem C16_request_ops_guarded (k : Kind) (o : OpK) : (guardsOf Mcp.Gen.clientOps Mcp.Gen.clientLifecycleFacts k).req o = true := by
  cases k <;> cases o <;> decide

/-- Initialize refuses a second call first, sets the flag once and only on the success path, every failure path
    reports disconnected, Close resets flag and state — on both client types. -/
theorem C16_lifecycle_facts :
    Mcp.Gen.clientLifecycleFacts.map (fun x => x.1) = [t!"Client", t!"StdioClient"] ∧
    (Mcp.Gen.clientLifecycleFacts.all (fun x => x.2.1 && x.2.2.1 && x.2.2.2.1 && x.2.2.2.2)) = true := by decide

/-- The guard theorems for the guards actually in the source: on all three kinds, a request operation on an
    uninitialized client returns not-initialized, sends nothing, changes nothing. -/
theorem C16_guard_real (k : Kind) (sm : ClientSM) (o : OpK) (f : Bool) (hi : sm.initialized = false) :
    step (guardsOf Mcp.Gen.clientOps Mcp.Gen.clientLifecycleFacts k) k sm (.req o f) = (sm, .notInitialized, []) :=
  C16_guard _ k sm o f (C16_request_ops_guarded k o) hi

/-- … and with the same guards no history without an `Initialize` in the benign environment puts an operation request on
    the wire, on any of the three kinds of client. -/
theorem C16_no_request_before_handshake_real (k : Kind) (ops : List Op) (hno : Op.init .ok ∉ ops) (o : OpK) :
    Msg.req o ∉ wire (guardsOf Mcp.Gen.clientOps Mcp.Gen.clientLifecycleFacts k) k {} ops :=
  C16_no_request_before_handshake _ k ops (C16_request_ops_guarded k) hno o

/-- Witness for the missing guard: with `roots := false` a fresh streamable client that never shook hands puts the
    roots notification on the wire and reports success. -/
theorem C16_unguarded_roots_witness :
    step ⟨fun _ => true, false, true⟩ .streamable {} .rootsChanged =
      ({ sends := 1 }, .ok, [.rootsChanged]) := by decide

/-- … and with the guard in place it does not, on any kind, in any uninitialized state. -/
theorem C16_guarded_roots (k : Kind) (sm : ClientSM) (hi : sm.initialized = false) :
    step Guards.all k sm .rootsChanged = (sm, .notInitialized, []) :=
  C16_guard_roots _ k sm rfl hi

/-- Close as read from the source today resets flag and state on every path after the transport's close(), on both
    client types (so on all three kinds of client). -/
theorem C16_close_resets_fact (k : Kind) :
    (guardsOf Mcp.Gen.clientOps Mcp.Gen.clientLifecycleFacts k).closeResets = true := by
  cases k <;> decide

/-- Hence for the real clients: after Close, whether or not the transport's close() failed (child already dead and
    reaped, failed kill), the client is uninitialized and disconnected, every request operation is refused with
    not-initialized without traffic, and the streamable client can shake hands again. -/
theorem C16_close_real (k : Kind) (sm : ClientSM) (f : Bool) (o : OpK) (g : Bool) :
    let G := guardsOf Mcp.Gen.clientOps Mcp.Gen.clientLifecycleFacts k
    (step G k sm (.close f)).1.initialized = false ∧ (step G k sm (.close f)).1.state = .disconnected ∧
    (step G k sm (.close f)).2.2 = [] ∧
    step G k (step G k sm (.close f)).1 (.req o g) = ((step G k sm (.close f)).1, .notInitialized, []) ∧
    (k = .streamable → (step G k (step G k sm (.close f)).1 (.init .ok)).2.1 = .ok) := by
  intro G
  have hc := C16_close_resets_fact k
  have h := C16_close_resets G k sm f hc
  exact ⟨h.1, h.2.1, by rw [h.2.2], C16_after_close_refused G k sm f o g hc (C16_request_ops_guarded k o),
    fun hk => ((C16_init_after_close G k sm f hc).1 hk).1⟩

/-- … and over every history, faulted Closes included, the reported state follows the specification and flag and state
    stay consistent. -/
theorem C16_state_reflects_history_real (k : Kind) (ops : List Op) :
    let G := guardsOf Mcp.Gen.clientOps Mcp.Gen.clientLifecycleFacts k
    states (trace G k {} ops) = specStates .disconnected (ops.zip (results (trace G k {} ops))) ∧ Inv k (final G k {} ops) :=
  ⟨C16_state_reflects_history _ k {} ops (C16_close_resets_fact k), C16_state_consistent _ k ops (C16_close_resets_fact k)⟩

/-- The bad region (seeded change C16-7): a Close that returns the transport error before the reset. A stdio client whose
    child died is still `initialized` after Close, and the next operation is answered by the closed transport (`failed`)
    instead of not-initialized; the specification of the reported state is violated. -/
theorem C16_close_fault_witness :
    trace ⟨fun _ => true, true, false⟩ .stdio {} [.init .ok, .close true, .req .listTools false] =
      [(.ok, .initialized, [.initReq, .initNotif]), (.failed, .initialized, []), (.failed, .initialized, [])] ∧
    trace Guards.all .stdio {} [.init .ok, .close true, .req .listTools false] =
      [(.ok, .initialized, [.initReq, .initNotif]), (.failed, .disconnected, []), (.notInitialized, .disconnected, [])] ∧
    lookupCloseResets [(t!"Client", true, true, true, true), (t!"StdioClient", true, true, true, false)] t!"StdioClient" = false := by
  decide

/-! ## non-vacuity -/

/-- operation before handshake, failed handshake, operation again, handshake, second handshake, operation, Close,
    operation, handshake after Close (streamable: works again). -/
example : trace Guards.all .streamable {}
      [.req .listTools false, .init .rpcErr, .req .callTool false, .init .ok, .init .ok, .req .callTool true, .close false,
       .req .readResource false, .init .ok] =
    [(.notInitialized, .disconnected, []), (.failed, .disconnected, [.initReq]), (.notInitialized, .disconnected, []),
     (.ok, .initialized, [.initReq, .initNotif]), (.alreadyInitialized, .initialized, []),
     (.rpcError, .initialized, [.req .callTool]), (.ok, .disconnected, []), (.notInitialized, .disconnected, []),
     (.ok, .initialized, [.initReq, .initNotif])] := by decide

/-- legacy SSE: the stream opened by a failed handshake is reused; after Close the transport stays closed. -/
example : trace Guards.all .sse {} [.init .netErr, .init .http500, .init .ok, .req .getPrompt false, .close false, .init .ok] =
    [(.failed, .disconnected, [.get]), (.failed, .disconnected, [.get, .initReq]), (.ok, .initialized, [.initReq, .initNotif]),
     (.ok, .initialized, [.req .getPrompt]), (.ok, .disconnected, []), (.failed, .disconnected, [])] := by decide

/-- streamable, Close with the fault: the client is reset all the same, and the transport reopens. The model lets every
    kind meet the fault; in the source only the stdio transport's close() can return an error (the streamable and the
    legacy SSE one always return nil). -/
example : trace Guards.all .streamable {} [.init .ok, .close true, .req .getPrompt false, .init .ok, .close false, .close true] =
    [(.ok, .initialized, [.initReq, .initNotif]), (.failed, .disconnected, []), (.notInitialized, .disconnected, []),
     (.ok, .initialized, [.initReq, .initNotif]), (.ok, .disconnected, []), (.failed, .disconnected, [])] := by decide

/-- A DELETE that fails keeps the session (it can be terminated later); Close after it resets as always. -/
example : trace Guards.all .streamable {}
      [.init .ok, .terminate true, .terminate false, .terminate false, .close true, .req .listTools false] =
    [(.ok, .initialized, [.initReq, .initNotif]), (.failed, .initialized, [.delete]), (.ok, .initialized, [.delete]),
     (.failed, .initialized, []), (.failed, .disconnected, []), (.notInitialized, .disconnected, [])] := by decide

example : trace Guards.all .stdio {} [.req .listPrompts false, .init .badResult, .init .ok, .restart, .req .listTools false] =
    [(.notInitialized, .disconnected, []), (.failed, .disconnected, [.initReq]), (.ok, .initialized, [.initReq, .initNotif]),
     (.failed, .disconnected, []), (.notInitialized, .disconnected, [])] := by decide

end Mcp.Props.C16
