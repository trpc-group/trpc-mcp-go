/-
  C14 — All transports answer alike.

  Statement: for the methods every transport serves (initialize, ping, tools/list, tools/call, prompts/list, prompts/get,
  resources/list, resources/read) the same registrations and the same JSON-RPC 2.0 request (well-formed envelope with a
  string or integer id; parameters valid or not) yield the same JSON-RPC result, or an error with the same code, on
  Streamable HTTP (JSON responses, SSE responses, stateless, sessions disabled), legacy SSE and stdio.

  Model: `Mcp.Rpc` — `serveStreamable` (every `SCfg`: mode × POST-SSE; the `Accept` header and the session reference are
  inputs), `serveSSE`, `serveStdio`; three envelope decoders (`decodeBase` + `decodeRequest` for the HTTP servers,
  `classifyStdio` + `decodeRequest` for stdio), two dispatchers (`dispatch` = the table of handler.go, `dispatchStdio` = the
  switch of stdio_server.go) over the same managers.

  `C14_same_messages` proves more than the statement asks: the three servers emit the IDENTICAL message (same id, same
  result or same error object) for every registry — handlers being arbitrary functions of their arguments —, every
  well-formed envelope whose numbers a float64 can hold, every parameter value. `C14_same_outcome` is the statement's
  reading (normalised outcome). The method sets of the two dispatchers are regenerated from the source
  (`C14_method_sets`). Outside the statement's domain the transports do differ; the witnesses are recorded:
  methods only the table knows (`C14_table_only_counterexample`), envelope leniency (`C14_version_witness`,
  `C14_null_id_witness`, `C14_missing_method_witness`).

  The client half ("the library's three clients return equal values for equal server answers"): every request method of
  `Client` (Streamable HTTP and legacy SSE) and of `StdioClient` is "transport.sendRequest → isErrorResponse → the method's
  decoder", and the decoders are shared (C02's model). `Mcp.RpcClient` models what each transport hands to the decoder for
  one answer (JSON body / `message` event of the legacy SSE stream, event of a POST answered as an SSE stream, stdio line).
  `C14_clients_equal`: for EVERY decoder `D` that does not tell `null` from `{}` and every valid answer — a result of any
  JSON shape, `null` included, or an error object — the four paths return the same value (the decoded result, or the same
  error code and message). `C14_decoders_null_is_empty` discharges the side condition for the decoders of C02's model; the
  reason it is needed is a real difference, recorded in `C14_stdio_null_result_witness`: the stdio transport replaces a
  `null` result by `{}` before the decoder sees it. For answers that are not valid the clients fail in different ways
  (`C14_invalid_answer_witness`). The theorems speak about the answer as it is ON THE WIRE: every transport first decodes
  the whole answer into Go values (numbers: float64) and hands the decoder `json.Marshal` of the decoded result —
  `C14_clients_same_numbers`: all four hand the decoder the same value, `C14_float64_edge_witness`: 2^53 + 1 arrives as
  2^53 everywhere. The harness component `rpcclients` drives the three real clients against peers giving the
  same answers (large ones included) and compares the returned values pairwise.
-/
import Mcp.Lemmas.Rpc
import Mcp.Gen.RpcFacts
import Mcp.Model.RpcClient
import Mcp.Model.Content
namespace Mcp.Props.C14
open Mcp.Str Mcp.Json Mcp.Content Mcp.RpcSpec Mcp.Rpc Mcp.Session

private theorem common_sub_stdio : ∀ m ∈ commonMethods, m ∈ stdioMethods := by decide

/-- The three servers emit the same messages: for every registry, every well-formed envelope `o` whose numbers Go can
    hold (`goDecodeFields o = some _`), every common method, every Streamable configuration `c` (mode, POST-SSE), every
    `Accept` header and every session the request is accepted in. -/
theorem C14_same_messages (reg : Registry) (o mm : Obj) (hwf : wfEnvelope (.obj o) = true) (hrep : goDecodeFields o = some mm)
    (m : Text) (hm : lookup o t!"method" = some (.str m)) (hc : m ∈ commonMethods)
    (c : SCfg) (st : St) (ref : Ref) (acc : Bool) (hs : sessionOk c st ref m) :
    (serveStreamable c reg st (postOf ref acc (.obj o))).2.messages = (serveStdio reg (.json (.obj o))).messages ∧
    (serveSSE reg (ssePostOf (.obj o))).messages = (serveStdio reg (.json (.obj o))).messages := by
  have hne : m ≠ [] := by rintro rfl; exact absurd hc (by decide)
  obtain ⟨_, id', a, a', _, _, h⟩ := serve_wfEnvelope reg o mm hwf hrep m hm hne c st ref acc hs
  -- on a common method the switch of stdio is the table: the two answers are one
  cases Outcome.ok.inj (h.switch.symm.trans ((dispatch_common reg _ (common_sub_stdio m hc)).trans h.table))
  rw [h.streamable, h.sse, h.stdio]
  cases ansMsg (some id') a <;> exact ⟨rfl, rfl⟩

/-- C14 as stated: the normalised outcome (the result, or the error code, of the only message; `silent` when there is
    none) is the same on Streamable HTTP in every mode, on legacy SSE and on stdio. -/
theorem C14_same_outcome (reg : Registry) (o mm : Obj) (hwf : wfEnvelope (.obj o) = true) (hrep : goDecodeFields o = some mm)
    (m : Text) (hm : lookup o t!"method" = some (.str m)) (hc : m ∈ commonMethods)
    (c : SCfg) (st : St) (ref : Ref) (acc : Bool) (hs : sessionOk c st ref m) :
    (serveStreamable c reg st (postOf ref acc (.obj o))).2.outcome = (serveStdio reg (.json (.obj o))).outcome ∧
    (serveSSE reg (ssePostOf (.obj o))).outcome = (serveStdio reg (.json (.obj o))).outcome := by
  obtain ⟨h1, h2⟩ := C14_same_messages reg o mm hwf hrep m hm hc c st ref acc hs
  simp [Reaction.outcome, h1, h2]

/-- …and pairwise between any two Streamable configurations (JSON answers, SSE answers, stateless, sessions disabled). -/
theorem C14_modes_alike (reg : Registry) (o mm : Obj) (hwf : wfEnvelope (.obj o) = true) (hrep : goDecodeFields o = some mm)
    (m : Text) (hm : lookup o t!"method" = some (.str m)) (hc : m ∈ commonMethods)
    (c c' : SCfg) (st st' : St) (ref ref' : Ref) (acc acc' : Bool) (hs : sessionOk c st ref m) (hs' : sessionOk c' st' ref' m) :
    (serveStreamable c reg st (postOf ref acc (.obj o))).2.outcome = (serveStreamable c' reg st' (postOf ref' acc' (.obj o))).2.outcome := by
  rw [(C14_same_outcome reg o mm hwf hrep m hm hc c st ref acc hs).1, (C14_same_outcome reg o mm hwf hrep m hm hc c' st' ref' acc' hs').1]

/-- T-gen: the dispatch table of handler.go and the switch of stdio_server.go have the method sets the model assumes; every
    method of the switch is in the table; the statement's eight methods are exactly the switch's. -/
theorem C14_method_sets :
    Mcp.Gen.rpcDispatchKeys = tableMethods ∧ Mcp.Gen.rpcStdioCases = stdioMethods ∧
    Mcp.Gen.rpcDispatchIsTableLookup = true ∧ Mcp.Gen.rpcStdioDefaultIsMethodNotFound = true ∧
    stdioMethods.all (fun m => tableMethods.contains m) = true ∧
    commonMethods.all (fun m => stdioMethods.contains m) = true ∧ stdioMethods.all (fun m => commonMethods.contains m) = true := by
  decide

/-- Outside the statement: the four methods only the dispatch table knows are served by the HTTP servers and refused with
    −32601 by stdio (same registry, same well-formed request). -/
theorem C14_table_only_counterexample :
    let j := demoEnv (.int 1) t!"resources/templates/list" none
    (serveStreamable (demoCfg .stateless) demoReg {} (postOf .none false j)).2.hasResult = true ∧
    (serveSSE demoReg (ssePostOf j)).hasResult = true ∧
    (serveStdio demoReg (.json j)).errorCode = some (-32601) ∧
    (serveStdio demoReg (.json (demoEnv (.int 1) t!"resources/subscribe" (some (.obj [(t!"uri", .str t!"verif://r")]))))).errorCode = some (-32601) ∧
    (serveStreamable (demoCfg .stateless) demoReg {} (postOf .none false
      (demoEnv (.int 1) t!"resources/subscribe" (some (.obj [(t!"uri", .str t!"verif://r")]))))).2.hasResult = true := by
  decide +kernel

/-- Outside the statement: only stdio insists on `"jsonrpc": "2.0"` — the HTTP servers answer with the result, stdio with
    −32600 (Invalid Request). -/
theorem C14_version_witness :
    let j : Json := .obj [(t!"jsonrpc", .str t!"1.0"), (t!"id", .int 1), (t!"method", .str t!"ping")]
    (serveStreamable (demoCfg .stateless) demoReg {} (postOf .none false j)).2.hasResult = true ∧
    (serveSSE demoReg (ssePostOf j)).hasResult = true ∧ (serveStdio demoReg (.json j)).errorCode = some (-32600) := by
  decide +kernel

/-- Outside the statement: `"id": null` is a request for stdio (answered with `"id": null`) and a notification for the HTTP
    servers (202, no message). -/
theorem C14_null_id_witness :
    let j : Json := .obj [(t!"jsonrpc", .str t!"2.0"), (t!"id", .null), (t!"method", .str t!"ping")]
    (serveStdio demoReg (.json j)).hasResult = true ∧
    (serveStreamable (demoCfg .stateless) demoReg {} (postOf .none false j)).2.messages.length = 0 ∧
    (serveStreamable (demoCfg .stateless) demoReg {} (postOf .none false j)).2.status = some 202 ∧
    (serveSSE demoReg (ssePostOf j)).messages.length = 0 := by
  decide +kernel

/-- Outside the statement: an id without a method is an unknown method for stdio (−32601) and a response for the HTTP
    servers (202, no message). -/
theorem C14_missing_method_witness :
    let j : Json := .obj [(t!"jsonrpc", .str t!"2.0"), (t!"id", .int 1)]
    (serveStdio demoReg (.json j)).errorCode = some (-32601) ∧
    (serveStreamable (demoCfg .stateless) demoReg {} (postOf .none false j)).2.messages.length = 0 ∧
    (serveSSE demoReg (ssePostOf j)).messages.length = 0 := by
  decide +kernel

/-- non-vacuity: a well-formed tools/call request in a live stateful session — all hypotheses hold and the outcome is a result -/
example :
    let o : Obj := [(t!"jsonrpc", .str t!"2.0"), (t!"id", .str t!"a"), (t!"method", .str t!"tools/call"), (t!"params", callParams t!"echo")]
    wfEnvelope (.obj o) = true ∧ (goDecodeFields o).isSome = true ∧ reqIs o t!"method" (isStrEq t!"tools/call") = true ∧
    (serveStreamable (demoCfg .stateful true) demoReg demoSt (postOf (.sid 0) true (.obj o))).2.hasResult = true ∧
    (serveStdio demoReg (.json (.obj o))).hasResult = true := by
  decide +kernel

/-- non-vacuity: invalid parameters are covered as well — the same −32602 everywhere -/
example :
    let j := demoEnv (.int 7) t!"tools/call" (some (.obj [(t!"name", .int 5)]))
    wfEnvelope j = true ∧
    (serveStreamable (demoCfg .sessionsOff) demoReg {} (postOf .none false j)).2.errorCode = some (-32602) ∧
    (serveSSE demoReg (ssePostOf j)).errorCode = some (-32602) ∧ (serveStdio demoReg (.json j)).errorCode = some (-32602) := by
  decide +kernel

/-! ## the clients -/

open Mcp.RpcClient in
private theorem recv_success (w : Json) (o : Obj) (r : Json) (hd : wireDecode w = some (.obj o)) (hs : successAnswer o)
    (hr : lookup o t!"result" = some r) :
    recvHTTP w = .raw r ∧ recvPostSSE w = .raw r ∧ recvStdio w = .raw (match r with | .null => .obj [] | y => y) ∧
    recvLegacySSE w = .raw r := by
  obtain ⟨hj, ⟨i, hi, hn⟩, he, _⟩ := hs
  have hel : lookup o t!"error" = none := by simpa [hasKey] using he
  simp only [recvPostSSE, recvHTTP, recvStdio, recvLegacySSE, hd]
  refine ⟨by simp [recvHTTPDecoded, hasKey, hel, hr], by simp [recvPostSSEDecoded, hasKey, hel, hr], ?_, by simp [recvHTTPDecoded, hasKey, hel, hr]⟩
  cases r <;> simp [recvStdioDecoded, hj, hi, hn, hel, hr, hasKey]

open Mcp.RpcClient in
private theorem recv_error (w : Json) (o : Obj) (hd : wireDecode w = some (.obj o)) (he : errorAnswer o) :
    recvHTTP w = .envelope (.obj o) ∧ recvPostSSE w = .envelope (.obj o) ∧ recvStdio w = .envelope (.obj o) ∧
    recvLegacySSE w = .envelope (.obj o) := by
  obtain ⟨hj, ⟨i, hi, hn⟩, e, c, m, he, hc, hm⟩ := he
  simp only [recvPostSSE, recvHTTP, recvStdio, recvLegacySSE, hd]
  refine ⟨by simp [recvHTTPDecoded, hasKey, he], by simp [recvPostSSEDecoded, hasKey, he], ?_, by simp [recvHTTPDecoded, hasKey, he]⟩
  simp [recvStdioDecoded, hj, hasKey, hi, hn, he, errorDecodes, hc, hm]

open Mcp.RpcClient in
/-- The Streamable client reading a JSON body, the Streamable client reading a POST answered as an SSE stream, the legacy
    SSE client (which extracts exactly like the first) and the stdio client return the same value for the same valid answer AS IT IS ON THE WIRE (`w`: any number
    literals, duplicate members): for every decoder `D` that treats `null` like `{}`, every answer that Go can decode
    (`wireDecode w = some (.obj o)`: numbers a float64 can hold) and that is a success answer (any result) or an error
    answer. -/
theorem C14_clients_equal {α : Type} (D : Json → α) (hnull : D .null = D (.obj [])) (w : Json) (o : Obj)
    (hd : wireDecode w = some (.obj o)) (hv : successAnswer o ∨ errorAnswer o) :
    finish D (recvPostSSE w) = finish D (recvHTTP w) ∧ finish D (recvStdio w) = finish D (recvHTTP w) ∧
    recvLegacySSE w = recvHTTP w := by
  rcases hv with hs | he
  · have ⟨_, _, _, hres⟩ := hs
    obtain ⟨r, hr⟩ : ∃ r, lookup o t!"result" = some r := Option.isSome_iff_exists.mp hres
    obtain ⟨h1, h2, h3, h4⟩ := recv_success w o r hd hs hr
    rw [h1, h2, h3, h4]
    refine ⟨rfl, ?_, rfl⟩
    cases r with
    | null => simp [finish, isErrorResponse, hasKey, hnull]
    | _ => rfl
  · obtain ⟨h1, h2, h3, h4⟩ := recv_error w o hd he
    rw [h1, h2, h3, h4]
    exact ⟨rfl, rfl, rfl⟩

open Mcp.RpcClient in
/-- Numbers: all four paths hand the decoder the SAME VALUE — the result as Go decoded it (`wireDecode`: every number the
    float64 nearest to the literal on the wire), not the bytes that arrived; stdio alone replaces `null` by `{}`. So a typed
    field (`size`, `priority`) and an untyped position (`structuredContent`, `_meta`, `experimental`) receive the same
    number whichever transport carried the answer. -/
theorem C14_clients_same_numbers (w : Json) (o : Obj) (r : Json) (hd : wireDecode w = some (.obj o)) (hs : successAnswer o)
    (hr : lookup o t!"result" = some r) :
    (match recvHTTP w with | .raw x => x = r | _ => False) ∧ (match recvPostSSE w with | .raw x => x = r | _ => False) ∧
    (match recvStdio w with | .raw x => x = (match r with | .null => .obj [] | y => y) | _ => False) ∧
    (match recvLegacySSE w with | .raw x => x = r | _ => False) := by
  obtain ⟨h1, h2, h3, h4⟩ := recv_success w o r hd hs hr
  rw [h1, h2, h3, h4]
  exact ⟨rfl, rfl, rfl, rfl⟩

open Mcp.RpcClient in
/-- …witness at the float64 edge: `"size": 9007199254740993` (2^53 + 1) reaches the decoder as 9007199254740992 on every
    path, `12.0` as 12.0, and `1e400` makes the answer undecodable everywhere (the three transports then fail in their three
    ways — outside the statement). -/
theorem C14_float64_edge_witness :
    let ans (v : Json) : Json := .obj [(t!"jsonrpc", .str t!"2.0"), (t!"id", .int 1), (t!"result", .obj [(t!"size", v)])]
    let handed (g : Got) : Option Int := match g with | .raw (.obj [(_, .int n)]) => some n | _ => none
    handed (recvHTTP (ans (.int 9007199254740993))) = some 9007199254740992 ∧
    handed (recvPostSSE (ans (.int 9007199254740993))) = some 9007199254740992 ∧
    handed (recvStdio (ans (.int 9007199254740993))) = some 9007199254740992 ∧
    handed (recvHTTP (ans (.int (-9007199254740993)))) = some (-9007199254740992) ∧
    handed (recvStdio (ans (.int 9223372036854775807))) = some 9223372036854775808 ∧
    (match recvHTTP (ans (.int (10 ^ 400))) with | .failed .undecodable => true | _ => false) = true ∧
    (match recvPostSSE (ans (.int (10 ^ 400))) with | .failed .noFinalResponse => true | _ => false) = true ∧
    (match recvStdio (ans (.int (10 ^ 400))) with | .failed .timeout => true | _ => false) = true ∧
    (match recvLegacySSE (ans (.int (10 ^ 400))) with | .failed .timeout => true | _ => false) = true := by
  decide +kernel

open Mcp.Content in
/-- The side condition holds for the result decoders of C02's model (tools/call, prompts/get, resources/read, tools/list):
    `null` and `{}` decode alike — to the same value or to the same error. -/
theorem C14_decoders_null_is_empty (bad : Json → Bool) :
    parseResult .null = parseResult (.obj []) ∧ parseGetPrompt .null = parseGetPrompt (.obj []) ∧
    parseReadResource .null = parseReadResource (.obj []) ∧ parseListTools bad .null = parseListTools bad (.obj []) := by
  refine ⟨?_, ?_, ?_, ?_⟩ <;>
    simp [parseResult, parseGetPrompt, parseReadResource, parseListTools, asMapTarget, lookup, extractArray, extractString,
      parseTools]

open Mcp.RpcClient in
/-- The real difference behind that side condition: for `"result": null` the stdio transport hands `{}` to the decoder, the
    HTTP transports hand `null`. -/
theorem C14_stdio_null_result_witness :
    let o : Obj := [(t!"jsonrpc", .str t!"2.0"), (t!"id", .int 1), (t!"result", .null)]
    (match recvStdio (.obj o) with | .raw (.obj []) => true | _ => false) = true ∧
    (match recvHTTP (.obj o) with | .raw .null => true | _ => false) = true ∧
    (match recvPostSSE (.obj o) with | .raw .null => true | _ => false) = true := by
  decide +kernel

open Mcp.RpcClient in
/-- Outside the statement (not a valid answer): an id with neither result nor error ends the call in three different ways —
    "missing result field" at once, "no final response" at the end of the stream, the call's timeout on stdio. -/
theorem C14_invalid_answer_witness :
    let o : Obj := [(t!"jsonrpc", .str t!"2.0"), (t!"id", .int 1)]
    (match recvHTTP (.obj o) with | .failed .missingResult => true | _ => false) = true ∧
    (match recvPostSSE (.obj o) with | .failed .noFinalResponse => true | _ => false) = true ∧
    (match recvStdio (.obj o) with | .failed .timeout => true | _ => false) = true := by
  decide +kernel

open Mcp.RpcClient in
/-- non-vacuity: both kinds of valid answer exist, and a JSON-RPC error reaches the caller with its code and message -/
example :
    successAnswer [(t!"jsonrpc", .str t!"2.0"), (t!"id", .int 7), (t!"result", .obj [(t!"content", .arr [])])] ∧
    errorAnswer [(t!"jsonrpc", .str t!"2.0"), (t!"id", .int 7), (t!"error", .obj [(t!"code", .int (-32602)), (t!"message", .str t!"no")])] ∧
    (match finish (fun _ => ()) (recvStdio (.obj [(t!"jsonrpc", .str t!"2.0"), (t!"id", .int 7),
        (t!"error", .obj [(t!"code", .int (-32602)), (t!"message", .str t!"no")])])) with
      | .rpcError (some (.int c)) (some (.str _)) => c == -32602 | _ => false) = true := by
  refine ⟨⟨rfl, ⟨_, rfl, rfl⟩, rfl, rfl⟩, ⟨rfl, ⟨_, rfl, rfl⟩, _, _, _, rfl, rfl, rfl⟩, by decide⟩

end Mcp.Props.C14
