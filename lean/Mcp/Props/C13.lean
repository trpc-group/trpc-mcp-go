/-
  C13 — request-scoped context never bleeds between concurrent requests (PARTIAL: the library's own data flow;
  aliasing through user code and `reflect` is outside, see `Mcp.Model.Ctx`).

  For any number of concurrent requests and every schedule of their atomic steps, in the region `Good` of the fact
  family (nothing request-scoped is parked in server-level state):
  * the local state of a request is that of the request processed alone, the shared state is untouched:
    `C13_noninterference`; for a finished request `C13_noninterference_done`, and `C13_finishes` says which schedules
    finish it;
  * the context functions take effect in registration order (`C13_ctxfunc_order`, a fact about `foldFns` alone), and
    that is what every stage of the request reads: `C13_ctxfunc_order_observed`;
  * a list answer is what the filter admits for the role in the caller's own headers: `C13_filter_hides`,
    `C13_filter_role_own`;
  * every session id and server handle a stage can find is the request's own: `C13_own_session`, `C13_own_server`.
  Today's source is in `Good`: the regenerated tables are decided one by one (`C13_no_shared_ctx` …
  `C13_session_lookup_direct`), `C13_code_facts` reads `codeFacts` off them, `C13_code_noninterference` is the instance.
  Outside `Good` the property fails: `C13_shared_slot_bleeds`, `C13_list_cache_bleeds`, `C13_lookup_cache_bleeds`; a
  descending fold is observable: `C13_reverse_fold_differs`.
-/
import Mcp.Model.Ctx
namespace Mcp.Props.C13
open Mcp.Str Mcp.Ctx

private theorem execInstr_shared {F : Facts} (hg : Good F) (cfg : Cfg) (req : Req) (i : Instr) (s : Shared × Loc) :
    (execInstr F cfg req i s).1 = s.1 := by
  obtain ⟨h1, h2, h3⟩ := hg
  cases i with
  | dispatch => simp only [execInstr, dispatch, h2]; split <;> rfl
  | _ => simp [execInstr, h1, h3]

private theorem step_shared {F : Facts} (hg : Good F) (cfg : Cfg) (req : Req) (s : Shared × Thr) :
    (step F cfg req s).1 = s.1 := by
  unfold step
  split
  · rfl
  · simp [execInstr_shared hg]

private theorem iter_shared {F : Facts} (hg : Good F) (cfg : Cfg) (req : Req) :
    ∀ (n : Nat) (s : Shared × Thr), (iter (step F cfg req) n s).1 = s.1
  | 0, _ => rfl
  | n + 1, s => (iter_shared hg cfg req n _).trans (step_shared hg cfg req s)

/-- What thread `i` has and sees after a schedule: its own steps, as many as the schedule gave it, on a shared state
    that the steps of the others leave as it is. -/
private theorem run_thread {F : Facts} (hg : Good F) (cfg : Cfg) (reqs : Nat → Req) (i : Nat) :
    ∀ (sched : List Nat) (st : State),
      ((run F cfg reqs sched st).sh, (run F cfg reqs sched st).ts i) =
        iter (step F cfg (reqs i)) (sched.count i) (st.sh, st.ts i)
  | [], _ => rfl
  | j :: s, st => by
    rw [run, run_thread hg cfg reqs i s]
    by_cases hij : i = j
    · subst hij; simp only [List.count_cons_self, stepAt, ↓reduceIte]; rfl
    · simp only [List.count_cons_of_ne (Ne.symm hij), stepAt, if_neg hij, step_shared hg]

/-- **Non-interference.** Whatever the number of concurrent requests and however their atomic steps interleave,
    the local state of request `i` (its context, what its middlewares / filters / handlers observed so far, its
    list answer) after a schedule is exactly its state when it runs ALONE for as many steps as the schedule gave
    it — and the shared state is untouched. -/
theorem C13_noninterference {F : Facts} (hg : Good F) (cfg : Cfg) (reg : Registry) (reqs : Nat → Req)
    (sched : List Nat) (i : Nat) :
    (run F cfg reqs sched (initState F cfg reg reqs)).ts i = (alone F cfg reg (reqs i) (sched.count i)).2 ∧
      (run F cfg reqs sched (initState F cfg reg reqs)).sh = sh0 reg := by
  have h := run_thread hg cfg reqs i sched (initState F cfg reg reqs)
  exact ⟨congrArg Prod.snd h, (congrArg Prod.fst h).trans (iter_shared hg cfg (reqs i) _ _)⟩

private theorem step_nil (F : Facts) (cfg : Cfg) (req : Req) (sh : Shared) (loc : Loc) :
    step F cfg req (sh, ⟨[], loc⟩) = (sh, ⟨[], loc⟩) := rfl

private theorem iter_steps (F : Facts) (cfg : Cfg) (req : Req) :
    ∀ (n : Nat) (todo : List Instr) (sh : Shared) (loc : Loc),
      iter (step F cfg req) n (sh, ⟨todo, loc⟩) =
        ((exec F cfg req (todo.take n) (sh, loc)).1, ⟨todo.drop n, (exec F cfg req (todo.take n) (sh, loc)).2⟩) := by
  intro n
  induction n with
  | zero => intro todo sh loc; simp [iter, exec]
  | succ n ih =>
    intro todo sh loc
    cases todo with
    | nil => simp only [iter, step_nil]; rw [ih]; simp
    | cons i rest =>
      simp only [iter, step]
      rw [ih]
      simp [exec]

/-- **Non-interference, finished requests.** In every schedule in which request `i` has run to its end, what its
    middlewares, filters and handlers observed and the list it answered are those of the request processed alone. -/
theorem C13_noninterference_done {F : Facts} (hg : Good F) (cfg : Cfg) (reg : Registry) (reqs : Nat → Req)
    (sched : List Nat) (i : Nat)
    (hdone : ((run F cfg reqs sched (initState F cfg reg reqs)).ts i).todo = []) :
    ((run F cfg reqs sched (initState F cfg reg reqs)).ts i).loc = runAlone F cfg reg (reqs i) := by
  rw [(C13_noninterference hg cfg reg reqs sched i).1] at hdone ⊢
  unfold alone thr0 at hdone ⊢
  rw [iter_steps] at hdone ⊢
  rw [List.take_of_length_le (List.drop_eq_nil_iff.mp hdone)]
  rfl

/-- A schedule that gives request `i` at least as many steps as its program has finishes it (so the hypothesis of
    `C13_noninterference_done` is met by every fair schedule). -/
theorem C13_finishes {F : Facts} (hg : Good F) (cfg : Cfg) (reg : Registry) (reqs : Nat → Req)
    (sched : List Nat) (i : Nat) (h : (prog F cfg (reqs i)).length ≤ sched.count i) :
    ((run F cfg reqs sched (initState F cfg reg reqs)).ts i).todo = [] := by
  rw [(C13_noninterference hg cfg reg reqs sched i).1]
  unfold alone thr0
  rw [iter_steps]
  exact List.drop_eq_nil_iff.mpr h

private theorem exec_append (F : Facts) (cfg : Cfg) (req : Req) (a b : List Instr) (s : Shared × Loc) :
    exec F cfg req (a ++ b) s = exec F cfg req b (exec F cfg req a s) := by
  simp [exec, List.foldl_append]

private theorem exec_fns (F : Facts) (cfg : Cfg) (req : Req) (fns : List CtxFn) (sh : Shared) (loc : Loc) :
    exec F cfg req (fns.map .fn) (sh, loc) = (sh, { loc with ctx := foldFns fns req.hdrs loc.ctx }) :=
  List.foldl_map.trans
    (List.foldl_hom (fun c => (sh, { loc with ctx := c })) (g₁ := fun c (f : CtxFn) => f.apply req.hdrs c) fun _ _ => rfl)

private theorem exec_mws (F : Facts) (cfg : Cfg) (req : Req) (ids : List Nat) (sh : Shared) (loc : Loc) :
    exec F cfg req (ids.map .mw) (sh, loc) = (sh, { loc with obs := loc.obs ++ ids.map (fun id => ⟨.mw id, loc.ctx⟩) }) := by
  induction ids generalizing loc with
  | nil => simp [exec]
  | cons f fs ih =>
    simp only [List.map_cons, exec, List.foldl_cons, execInstr] at ih ⊢
    rw [ih]
    simp

private theorem runAlone_eq {F : Facts} (hg : Good F) (cfg : Cfg) (reg : Registry) (req : Req) :
    runAlone F cfg reg req =
      { ctx := reqCtx F cfg req
        obs := mwObs F cfg req ++ match listOf reg req.method with
          | some _ => [⟨.filter, reqCtx F cfg req⟩]
          | none => handlerObs cfg.mode req (reqCtx F cfg req)
        resp := (listOf reg req.method).map (filterNames cfg (reqCtx F cfg req)) } := by
  obtain ⟨h1, h2, h3⟩ := hg
  unfold runAlone prog
  rw [exec_append, exec_append, exec_append, exec_fns]
  have hmid : ∀ (sh : Shared) (loc : Loc),
      exec F cfg req [.lookId, .lookSess, .publish, .park, .unpark, .inject] (sh, loc) =
        (sh, { loc with ctx := inject cfg.mode (effReq req loc) loc.ctx }) := by
    intro sh loc; simp [exec, execInstr, h1, h3]
  rw [hmid]
  by_cases hn : req.method = .notify
  · simp only [hn, if_true, mwObs, reqCtx]
    simp [exec, execInstr, dispatch, sh0, listOf, handlerObs, hn, effReq]
  · simp only [hn, if_false, mwObs]
    rw [exec_mws]
    simp only [exec, List.foldl_cons, List.foldl_nil, execInstr, dispatch, h2, sh0, reqCtx]
    cases hl : listOf reg req.method <;> simp [effReq]

/-- What the stages of a request look at is the request's own context, the tool handler through `handleCallTool` —
    in every schedule that lets the request finish. -/
private theorem done_obs {F : Facts} (hg : Good F) (cfg : Cfg) (reg : Registry) (reqs : Nat → Req) (sched : List Nat)
    (i : Nat) (hdone : ((run F cfg reqs sched (initState F cfg reg reqs)).ts i).todo = [])
    (o : Obs) (ho : o ∈ ((run F cfg reqs sched (initState F cfg reg reqs)).ts i).loc.obs) :
    o.ctx = reqCtx F cfg (reqs i) ∨ o.ctx = toolCtx cfg.mode (reqs i) (reqCtx F cfg (reqs i)) := by
  rw [C13_noninterference_done hg cfg reg reqs sched i hdone, runAlone_eq hg] at ho
  rcases List.mem_append.1 ho with ho | ho
  · unfold mwObs at ho
    split at ho
    · cases ho
    · obtain ⟨_, _, rfl⟩ := List.mem_map.1 ho; exact .inl rfl
  · cases hl : listOf reg (reqs i).method with
    | some _ => rw [hl] at ho; cases List.mem_singleton.1 ho; exact .inl rfl
    | none =>
      simp only [hl, handlerObs] at ho
      split at ho <;> simp only [List.mem_singleton, List.not_mem_nil] at ho <;> subst ho <;> simp

private theorem inject_vals (m : Mode) (req : Req) (c : Ctx) : (inject m req c).vals = c.vals := by
  cases m <;> simp only [inject] <;> (try split) <;> rfl

private theorem toolCtx_vals (m : Mode) (req : Req) (c : Ctx) : (toolCtx m req c).vals = c.vals := by
  cases m <;> rfl

private theorem fold_other (fns : List CtxFn) (h : Headers) (c : Ctx) :
    (foldFns fns h c).session = c.session ∧ (foldFns fns h c).client = c.client ∧
      (foldFns fns h c).server = c.server ∧ (foldFns fns h c).sender = c.sender := by
  induction fns generalizing c with
  | nil => exact ⟨rfl, rfl, rfl, rfl⟩
  | cons f fs ih => exact ih (f.apply h c)

/-! ### Context functions: registration order -/

private theorem get_apply_ne (f : CtxFn) (h : Headers) (c : Ctx) (k : Nat) (hk : f.key ≠ k) :
    (f.apply h c).get k = c.get k := by
  have : (k == f.key) = false := by simp [Ne.symm hk]
  simp [CtxFn.apply, Ctx.get, List.lookup_cons, this]

private theorem get_apply_eq (f : CtxFn) (h : Headers) (c : Ctx) :
    (f.apply h c).get f.key = derive f.id (hget h f.hdr) (c.get f.sees) := by
  simp [CtxFn.apply, Ctx.get]

private theorem get_fold_ne (post : List CtxFn) (h : Headers) (c : Ctx) (k : Nat) (hk : ∀ f ∈ post, f.key ≠ k) :
    (foldFns post h c).get k = c.get k :=
  List.foldlRecOn (motive := fun c' => c'.get k = c.get k) post _ rfl fun c' hc f hf =>
    (get_apply_ne f h c' k (hk f hf)).trans hc

/-- **Registration order of the context functions.** If `g` is registered after the functions `pre` and before the
    functions `post`, then `g` is applied to the context the EARLIER ones produced (it sees their values, in
    particular one it overrides) — and unless a LATER one binds the same key, the value `g` derived is what every
    later reader finds under that key, whatever the earlier ones had put there. -/
theorem C13_ctxfunc_order (pre post : List CtxFn) (g : CtxFn) (h : Headers) (c : Ctx)
    (hlast : ∀ f ∈ post, f.key ≠ g.key) :
    foldFns (pre ++ g :: post) h c = foldFns post h (g.apply h (foldFns pre h c)) ∧
      (foldFns (pre ++ g :: post) h c).get g.key = derive g.id (hget h g.hdr) ((foldFns pre h c).get g.sees) := by
  have h1 : foldFns (pre ++ g :: post) h c = foldFns post h (g.apply h (foldFns pre h c)) := by
    simp [foldFns, List.foldl_append]
  refine ⟨h1, ?_⟩
  rw [h1, get_fold_ne post h _ g.key hlast, get_apply_eq]

/-- … and that is what every middleware, filter and handler of the request finds (Streamable, any schedule, any
    number of concurrent requests): the values under the context functions' keys are those of the fold over the
    request's own headers in registration order. -/
theorem C13_ctxfunc_order_observed {F : Facts} (hg : Good F) (hasc : F.foldAscending = true) (cfg : Cfg)
    (hmode : cfg.mode ≠ .sse) (reg : Registry) (reqs : Nat → Req) (sched : List Nat) (i : Nat)
    (hdone : ((run F cfg reqs sched (initState F cfg reg reqs)).ts i).todo = [])
    (o : Obs) (ho : o ∈ ((run F cfg reqs sched (initState F cfg reg reqs)).ts i).loc.obs) :
    o.ctx.vals = (foldFns cfg.fns (reqs i).hdrs {}).vals := by
  have he : effFns F cfg = cfg.fns := by
    unfold effFns; cases hm : cfg.mode <;> simp_all
  rcases done_obs hg cfg reg reqs sched i hdone o ho with h | h <;>
    rw [h, ← he] <;> simp only [toolCtx_vals, reqCtx, inject_vals]

/-! ### List filters are evaluated per request -/

/-- **The filter hides per caller.** In every schedule, a finished list request of caller `i` answers exactly the
    entries its filter admits for the role derived from `i`'s own headers: an entry hidden from `i`'s role never
    appears in `i`'s answer, while it does appear in the answer of a concurrently served caller `j` whose role the
    filter admits. (Registry names are unique: `hname`.) -/
theorem C13_filter_hides {F : Facts} (hg : Good F) (cfg : Cfg) (reg : Registry) (reqs : Nat → Req)
    (sched : List Nat) (i j : Nat) (es : List Entry) (e : Entry)
    (hmi : listOf reg (reqs i).method = some es) (hmj : listOf reg (reqs j).method = some es)
    (he : e ∈ es) (hname : ∀ e' ∈ es, e'.name = e.name → e' = e)
    (hdi : ((run F cfg reqs sched (initState F cfg reg reqs)).ts i).todo = [])
    (hdj : ((run F cfg reqs sched (initState F cfg reg reqs)).ts j).todo = [])
    (hhid : visible cfg.roleKey (reqCtx F cfg (reqs i)) e = false)
    (hadm : visible cfg.roleKey (reqCtx F cfg (reqs j)) e = true) :
    (∃ ri, ((run F cfg reqs sched (initState F cfg reg reqs)).ts i).loc.resp = some ri ∧ e.name ∉ ri) ∧
      (∃ rj, ((run F cfg reqs sched (initState F cfg reg reqs)).ts j).loc.resp = some rj ∧ e.name ∈ rj) := by
  rw [C13_noninterference_done hg cfg reg reqs sched i hdi, C13_noninterference_done hg cfg reg reqs sched j hdj,
    runAlone_eq hg, runAlone_eq hg, hmi, hmj]
  refine ⟨⟨_, rfl, ?_⟩, ⟨_, rfl, ?_⟩⟩
  · intro hin
    simp only [filterNames, List.mem_map, List.mem_filter] at hin
    obtain ⟨e', ⟨he', hv⟩, hn⟩ := hin
    rw [hname e' he' hn, hhid] at hv
    exact Bool.false_ne_true hv
  · simp only [filterNames, List.mem_map, List.mem_filter]
    exact ⟨e, ⟨he, hadm⟩, rfl⟩

/-- The role the filter reads is a function of the caller's own headers and the configuration only. -/
theorem C13_filter_role_own (F : Facts) (cfg : Cfg) (r r' : Req) (hh : r.hdrs = r'.hdrs) :
    (reqCtx F cfg r).vals = (reqCtx F cfg r').vals := by
  simp only [reqCtx, inject_vals, hh]

/-! ### Own session, own sender, own server -/

/-- Every session id a stage can find in `c` is the request's own (with sessions off: the empty id of the sender). -/
private def OwnSession (m : Mode) (req : Req) (c : Ctx) : Prop :=
  (∀ s ∈ sessionsOf c, s = req.sid ∨ (m = .sessionsOff ∧ s = [])) ∧ (m ≠ .sessionsOff → c.session = some req.sid)

private theorem own_inject (m : Mode) (req : Req) (c : Ctx) (hs : c.session = none) (hc : c.client = none)
    (hn : c.sender = none) : OwnSession m req (inject m req c) := by
  unfold OwnSession inject sessionsOf senderOf
  cases m <;> by_cases hnot : req.method = .notify <;> cases hacc : req.acceptSSE <;> simp [hnot, hs, hc, hn]

private theorem sessionsOf_toolCtx (m : Mode) (req : Req) (c : Ctx) :
    (toolCtx m req c).session = c.session ∧ ∀ s ∈ sessionsOf (toolCtx m req c), s ∈ sessionsOf c ∨ s = req.sid := by
  cases m <;> refine ⟨rfl, fun s hs => ?_⟩ <;>
    simp only [toolCtx, sessionsOf, List.mem_append, Option.mem_toList] at hs ⊢ <;>
    rcases hs with (hs | hs) | hs <;> simp_all

/-- **Own session.** Every session id that any middleware, filter or handler of request `i` can find in its
    context — through `GetSessionFromContext`, `ClientSessionFromContext` or the session the notification sender is
    bound to — is the session of request `i` (with sessions off: the empty id of the sender), in every schedule.
    With sessions on, `GetSessionFromContext` does find it. -/
theorem C13_own_session {F : Facts} (hg : Good F) (cfg : Cfg) (reg : Registry) (reqs : Nat → Req)
    (sched : List Nat) (i : Nat)
    (hdone : ((run F cfg reqs sched (initState F cfg reg reqs)).ts i).todo = [])
    (o : Obs) (ho : o ∈ ((run F cfg reqs sched (initState F cfg reg reqs)).ts i).loc.obs) :
    (∀ s ∈ sessionsOf o.ctx, s = (reqs i).sid ∨ (cfg.mode = .sessionsOff ∧ s = [])) ∧
      (cfg.mode ≠ .sessionsOff → o.ctx.session = some (reqs i).sid) := by
  obtain ⟨f1, f2, _, f4⟩ := fold_other (effFns F cfg) (reqs i).hdrs {}
  have own : OwnSession cfg.mode (reqs i) (reqCtx F cfg (reqs i)) := own_inject _ _ _ f1 f2 f4
  rcases done_obs hg cfg reg reqs sched i hdone o ho with h | h <;> rw [h]
  · exact own
  · obtain ⟨h1, h2⟩ := sessionsOf_toolCtx cfg.mode (reqs i) (reqCtx F cfg (reqs i))
    exact ⟨fun s hs => (h2 s hs).elim (own.1 s) .inl, fun hm => h1 ▸ own.2 hm⟩

/-- The server handle a stage finds is this server's (never a handle that depends on another request). -/
theorem C13_own_server {F : Facts} (hg : Good F) (cfg : Cfg) (reg : Registry) (reqs : Nat → Req)
    (sched : List Nat) (i : Nat)
    (hdone : ((run F cfg reqs sched (initState F cfg reg reqs)).ts i).todo = [])
    (o : Obs) (ho : o ∈ ((run F cfg reqs sched (initState F cfg reg reqs)).ts i).loc.obs) :
    o.ctx.server = none ∨ o.ctx.server = some (if cfg.mode = .sse then Srv.sse else Srv.streamable) := by
  have f3 : (foldFns (effFns F cfg) (reqs i).hdrs {}).server = none := (fold_other ..).2.2.1
  have hi : ∀ c : Ctx, (inject cfg.mode (reqs i) c).server = if cfg.mode = .sse then some .sse else c.server := by
    intro c; cases cfg.mode <;> simp only [inject, reduceCtorEq, ↓reduceIte] <;> (try split) <;> rfl
  have ht : ∀ c : Ctx, (toolCtx cfg.mode (reqs i) c).server = if cfg.mode = .sse then c.server else some .streamable := by
    intro c; cases cfg.mode <;> rfl
  rcases done_obs hg cfg reg reqs sched i hdone o ho with h | h <;>
    simp only [h, ht, reqCtx, hi, f3] <;> split <;> simp

/-! ### Today's source is in the good region (regenerated facts) -/

/-- Every store of a `context.Context`, a `Session` or a notification sender into a struct field or package-level
    variable of package mcp hits a per-connection / per-session object of the allow-list. -/
theorem C13_no_shared_ctx : ∀ a ∈ Mcp.Gen.cfStores, storeAllowed a = true := by decide

/-- Completeness of the allow-list's domain: every field / package variable whose type can hold such a value has
    been classified (a new one breaks this until it is looked at). -/
theorem C13_carriers_classified : ∀ f ∈ Mcp.Gen.cfCarrierFields, carrierKnown f = true := by decide

/-- No function of package mcp appends to a shared slice (struct field / package-level variable) without assigning the
    result back to that slice: no per-request element is ever written into the spare capacity of a server-level
    backing array (where concurrent requests would overwrite each other's — e.g. the innermost layer of a middleware
    chain built as `append(h.middlewares, layerOfThisRequest)`). -/
theorem C13_no_shared_slice_aliasing : Mcp.Gen.cfFieldAppends.all appendOk = true := by decide

/-- … and the predicate does reject that shape. -/
example : appendOk (t!"mcpHandler.handleRequest", t!"mcpHandler.middlewares", t!"aliased") = false ∧
    appendOk (t!"mcpHandler.use", t!"mcpHandler.middlewares", t!"assign-back") = true := by decide

/-- Every context passed on by a call in the server-side files is the function's own parameter, derived from it
    through calls that take it, or the request's own `r.Context()` — never a stored one, never `Background()`. -/
theorem C13_ctx_args_request_derived : Mcp.Gen.cfCtxArgs.all argOk = true := by decide

/-- The three list filters are each called once, with the handler's own context parameter. -/
theorem C13_filters_called_with_request_ctx :
    Mcp.Gen.cfFilterCalls.all filterCallOk = true ∧
      Mcp.Gen.cfFilterCalls.map (fun a => (a.1, a.2.1)) =
        [(t!"promptManager.handleListPrompts", t!"promptListFilter"),
         (t!"resourceManager.handleListResources", t!"resourceListFilter"),
         (t!"toolManager.handleListTools", t!"toolListFilter")] := by decide

/-- The list handlers write no server-level state (nowhere to cache a filtered list). -/
theorem C13_list_handlers_stateless : Mcp.Gen.cfListFieldWrites = [] := by decide

/-- The slice a list filter receives is made for that call by the getter (which keeps no reference to it: a filter
    that compacts or sorts its input in place cannot touch another request's view), the slices of the list results
    are made inside the handler call, and no `sync.Pool` is involved (no memory that is still referenced by an
    unsent answer is handed to another request). -/
theorem C13_list_memory_per_request :
    Mcp.Gen.cfListSnapshots =
        [(t!"promptManager.handleListPrompts", t!"promptManager.getPrompts", t!"fresh"),
         (t!"resourceManager.handleListResources", t!"resourceManager.getResources", t!"fresh"),
         (t!"toolManager.handleListTools", t!"toolManager.getTools", t!"fresh")] ∧
      Mcp.Gen.cfListResults.all listFactFresh = true ∧ Mcp.Gen.cfListResults.length = 3 ∧
      Mcp.Gen.cfListPoolUses = [] := by decide

/-- `handlePost` folds the context functions first-registered-first over the request and hands the result (and
    nothing else) to the request / notification / response branches; `WithHTTPContextFunc` appends. -/
theorem C13_fold_in_registration_order :
    Mcp.Gen.cfPostFoldAscending = true ∧ Mcp.Gen.cfPostPassesEnriched = true ∧
      Mcp.Gen.cfCtxFuncsRegisteredInOrder = true := by decide

/-- Legacy SSE: a single context function (the last option wins), applied in `handleMessage` to the POST being
    served; `createSessionContext` injects session, server and client session. -/
theorem C13_sse_shape :
    Mcp.Gen.cfSSESingleCtxFunc = true ∧ Mcp.Gen.cfSSEAppliesToPost = true ∧ Mcp.Gen.cfSSEInjects = true := by decide

/-- The session a request is processed with is found by a single keyed read of the session registry — the adapter
    keeps no state of its own and returns the manager's answer, the manager reads its id-keyed map once under its
    lock and returns what it read, `handlePost` looks up under the request's own `Mcp-Session-Id` header and hands on
    exactly that session, legacy SSE does one `sync.Map` Load under the POST's own `sessionId` parameter: there is no
    remembered lookup outside the registry. -/
theorem C13_session_lookup_direct : Mcp.Gen.cfSessionLookups = expectedLookups := by decide

/-- The facts of today's source, read off the table theorems above. -/
theorem C13_code_facts :
    codeFacts = { foldAscending := true, sharedSlot := false, listCache := false, lookupCache := false } := by
  obtain ⟨snapshots, results, -, pools⟩ := C13_list_memory_per_request
  unfold codeFacts
  rw [C13_fold_in_registration_order.1, List.all_eq_true.2 C13_no_shared_ctx, C13_ctx_args_request_derived,
    C13_no_shared_slice_aliasing, C13_list_handlers_stateless, snapshots, results, pools, C13_session_lookup_direct]
  decide

theorem C13_code_good : Good codeFacts := by rw [C13_code_facts]; exact ⟨rfl, rfl, rfl⟩

/-- Non-interference instantiated at the facts regenerated from today's source. -/
theorem C13_code_noninterference (cfg : Cfg) (reg : Registry) (reqs : Nat → Req) (sched : List Nat) (i : Nat)
    (hdone : ((run codeFacts cfg reqs sched (initState codeFacts cfg reg reqs)).ts i).todo = []) :
    ((run codeFacts cfg reqs sched (initState codeFacts cfg reg reqs)).ts i).loc = runAlone codeFacts cfg reg (reqs i) :=
  C13_noninterference_done C13_code_good cfg reg reqs sched i hdone

/-! ### Outside the good region the property fails (why the facts matter) -/

/-- If the enriched context is parked in a server-level slot, there is a schedule of two requests in which a
    middleware of request 0 sees request 1's values. -/
theorem C13_shared_slot_bleeds :
    let F : Facts := { foldAscending := true, sharedSlot := true, listCache := false, lookupCache := false }
    let sched := [0, 0, 0, 0, 0, 0, 0, 1, 1, 1, 1, 1, 1, 1, 0, 0, 0, 0, 1, 1, 1, 1]
    ((run F wCfg wReqs sched (initState F wCfg wReg wReqs)).ts 0).todo = [] ∧
      ((run F wCfg wReqs sched (initState F wCfg wReg wReqs)).ts 0).loc ≠ runAlone F wCfg wReg (wReqs 0) := by
  decide

/-- If a list handler caches the filtered list, the second caller gets the first caller's view. -/
theorem C13_list_cache_bleeds :
    let F : Facts := { foldAscending := true, sharedSlot := false, listCache := true, lookupCache := false }
    let sched := [0, 0, 0, 0, 0, 0, 0, 0, 0, 0, 0, 1, 1, 1, 1, 1, 1, 1, 1, 1, 1, 1]
    ((run F wCfg wReqs sched (initState F wCfg wReg wReqs)).ts 1).todo = [] ∧
      ((run F wCfg wReqs sched (initState F wCfg wReg wReqs)).ts 1).loc.resp ≠
        (runAlone F wCfg wReg (wReqs 1)).resp := by
  decide

/-- A descending fold is observable: the third function no longer sees the first one's value. -/
theorem C13_reverse_fold_differs :
    (runAlone { foldAscending := false, sharedSlot := false, listCache := false, lookupCache := false } wCfg wReg (wReqs 0)).ctx.get 12 ≠
      (runAlone { foldAscending := true, sharedSlot := false, listCache := false, lookupCache := false } wCfg wReg (wReqs 0)).ctx.get 12 := by
  decide

/-- If the session lookup goes through a lock-free one-entry "last lookup" cache whose id and session are published
    as two separate words, there is a schedule of three requests on two sessions in which a request sent on session
    `s0` is processed with session `s1`: request 0 (session `s0`) runs alone and leaves `lastId = s0`; request 1
    (session `s1`) misses and stores `lastSess := s1` but has not yet stored the id; request 2 (session `s0` again)
    compares ids, hits, and reads `lastSess = s1` — all its stages see `s1`, alone it sees `s0`. -/
theorem C13_lookup_cache_bleeds :
    let F : Facts := { foldAscending := true, sharedSlot := false, listCache := false, lookupCache := true }
    let reqs : Nat → Req := fun i => if i = 1 then wReqs 1 else wReqs 0
    let sched := [0, 0, 0, 0, 0, 0, 0, 0, 0, 0, 0, 1, 1, 1, 1, 1, 2, 2, 2, 2, 2, 2, 2, 2, 2, 2, 2]
    ((run F wCfg reqs sched (initState F wCfg wReg reqs)).ts 2).todo = [] ∧
      (reqs 2).sid = t!"s0" ∧
      (((run F wCfg reqs sched (initState F wCfg wReg reqs)).ts 2).loc.obs.map (·.ctx.session)) =
        [some t!"s1", some t!"s1"] ∧
      ((runAlone F wCfg wReg (reqs 2)).obs.map (·.ctx.session)) = [some t!"s0", some t!"s0"] := by
  decide

/-- two concurrent list requests under an interleaved schedule: both finish, the admin-only tool is hidden from the
    user and shown to the admin. -/
example :
    let F := codeFacts
    let sched := [0, 1, 0, 1, 1, 0, 0, 1, 0, 1, 1, 0, 0, 1, 1, 0, 1, 0, 0, 1, 0, 1]
    ((run F wCfg wReqs sched (initState F wCfg wReg wReqs)).ts 0).loc.resp = some [t!"admin-tool", t!"open-tool"] ∧
      ((run F wCfg wReqs sched (initState F wCfg wReg wReqs)).ts 1).loc.resp = some [t!"open-tool"] := by
  decide

/-- the hypotheses of `C13_filter_hides` are satisfiable: hidden for request 1, admitted for request 0. -/
example :
    visible wCfg.roleKey (reqCtx codeFacts wCfg (wReqs 1)) ⟨t!"admin-tool", [t!"#user#"]⟩ = false ∧
      visible wCfg.roleKey (reqCtx codeFacts wCfg (wReqs 0)) ⟨t!"admin-tool", [t!"#user#"]⟩ = true := by
  decide

/-- registration order, concretely: function 2 sees what function 1 bound under key 10; a third function that
    re-binds key 10 overrides it for every later reader while function 2 still saw the earlier value. -/
example :
    (foldFns [⟨1, 0, 10, 10⟩, ⟨2, 1, 11, 10⟩, ⟨3, 0, 10, 11⟩] [(0, t!"a"), (1, t!"r")] {}).get 11 = t!"2:r(1:a())" ∧
      (foldFns [⟨1, 0, 10, 10⟩, ⟨2, 1, 11, 10⟩, ⟨3, 0, 10, 11⟩] [(0, t!"a"), (1, t!"r")] {}).get 10 = t!"3:a(2:r(1:a()))" := by
  decide

/-- a tool call on legacy SSE: the middleware and the handler see the POST's value, the session of the request, the
    SSE server and no sender. -/
example :
    (runAlone codeFacts { mode := .sse, fns := wFns, mws := [7], roleKey := 11 } wReg
      { hdrs := [(0, t!"a"), (1, t!"q")], sid := t!"sse-1", method := .callTool }).obs =
      [⟨.mw 7, { vals := [(12, t!"3:a()")], session := some t!"sse-1", client := some t!"sse-1", server := some .sse }⟩,
       ⟨.handler, { vals := [(12, t!"3:a()")], session := some t!"sse-1", client := some t!"sse-1", server := some .sse }⟩] := by
  decide

end Mcp.Props.C13
