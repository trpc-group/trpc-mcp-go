/-
  Text helpers on `List Char` (code points).  Models never use `String`, so that `decide`/`rfl`
  on concrete witnesses stay kernel-reducible; the driver converts at the I/O boundary.
  Mirrors the handful of Go `strings` functions the library uses.
-/
namespace Mcp.Str

/-- Text = list of Unicode code points as `Nat` (kernel arithmetic on `Nat` is fast, `Char`/`String` literals
    are very slow under `decide +kernel`). -/
abbrev Text := List Nat

open Lean in
/-- `t!"abc"` elaborates to the literal `[97, 98, 99]` (done at elaboration time, nothing for the kernel to unfold). -/
macro:max "t!" s:str : term => do
  let cs := s.getString.toList.toArray.map (fun c => Syntax.mkNumLit (toString c.toNat))
  `(([$cs,*] : List Nat))

/-- Go `strings.HasPrefix`. -/
def hasPrefix : Text → Text → Bool
  | _, [] => true
  | [], _ :: _ => false
  | c :: s, d :: p => c == d && hasPrefix s p

/-- Go `strings.Contains` (naive scan; `contains s [] = true`). -/
def contains : Text → Text → Bool
  | [], p => p.isEmpty
  | c :: s, p => hasPrefix (c :: s) p || contains s p

/-- Go `strings.HasSuffix`. -/
def hasSuffix (s p : Text) : Bool := hasPrefix s.reverse p.reverse

/-- ASCII part of Go `strings.ToLower` (the only part the models rely on; non-ASCII code points are
    left alone — recorded in the trusted base). -/
def lowerChar (c : Nat) : Nat :=
  if 65 ≤ c ∧ c ≤ 90 then c + 32 else c

def toLower (s : Text) : Text := s.map lowerChar

/-- Decimal rendering of a natural number as `strconv.Itoa` gives it. -/
def digitsAux : Nat → Nat → Text → Text
  | 0, _, acc => acc
  | f + 1, n, acc => if n < 10 then (48 + n) :: acc else digitsAux f (n / 10) ((48 + n % 10) :: acc)
def natDigits (n : Nat) : Text := digitsAux (n + 1) n []

def intText (i : Int) : Text :=
  match i with
  | .ofNat n => natDigits n
  | .negSucc n => 45 :: natDigits (n + 1)

def ofString (s : String) : Text := s.toList.map Char.toNat
def toString (t : Text) : String := String.ofList (t.map Char.ofNat)

/-! ### `contains`, `hasPrefix`, `hasSuffix` are the list relations `<:+:`, `<+:`, `<:+` -/

theorem hasPrefix_iff {s p : Text} : hasPrefix s p = true ↔ p <+: s := by
  induction s generalizing p with
  | nil => cases p <;> simp [hasPrefix]
  | cons c s ih =>
    cases p with
    | nil => simp [hasPrefix]
    | cons d p => simp [hasPrefix, ih, List.cons_prefix_cons, @eq_comm _ c d]

theorem contains_iff {s p : Text} : contains s p = true ↔ p <:+: s := by
  induction s with
  | nil => simp [contains]
  | cons c s ih => simp [contains, hasPrefix_iff, ih, List.infix_cons_iff]

theorem hasSuffix_iff {s p : Text} : hasSuffix s p = true ↔ p <:+ s := by
  simp [hasSuffix, hasPrefix_iff, List.reverse_prefix]

theorem contains_infix (pre m post : Text) : contains (pre ++ (m ++ post)) m = true :=
  contains_iff.mpr ⟨pre, post, List.append_assoc pre m post⟩

theorem toLower_append (a b : Text) : toLower (a ++ b) = toLower a ++ toLower b := List.map_append

/-! ### decimal rendering -/

theorem digitsAux_append (f n : Nat) (acc : Text) : digitsAux f n acc = digitsAux f n [] ++ acc := by
  induction f generalizing n acc with
  | zero => simp [digitsAux]
  | succ f ih =>
    simp only [digitsAux]
    split
    · simp
    · rw [ih (n / 10) ((48 + n % 10) :: acc), ih (n / 10) [48 + n % 10]]; simp

theorem digitsAux_succ (f n : Nat) :
    digitsAux (f + 1) n [] = if n < 10 then [48 + n] else digitsAux f (n / 10) [] ++ [48 + n % 10] := by
  simp only [digitsAux]
  split
  · rfl
  · exact digitsAux_append ..

theorem digitsAux_chars (f n : Nat) : ∀ c ∈ digitsAux f n [], 48 ≤ c ∧ c ≤ 57 := by
  induction f generalizing n with
  | zero => simp [digitsAux]
  | succ f ih =>
    rw [digitsAux_succ]
    split
    · simp; omega
    · intro c hc
      rcases List.mem_append.mp hc with hc | hc
      · exact ih _ c hc
      · have := List.mem_singleton.mp hc; omega

theorem natDigits_chars (n : Nat) : ∀ c ∈ natDigits n, 48 ≤ c ∧ c ≤ 57 := digitsAux_chars (n + 1) n

theorem natDigits_ne_nil (n : Nat) : natDigits n ≠ [] := by
  rw [natDigits, digitsAux_succ]
  split <;> simp

/-- The number a digit string denotes: a left inverse of `natDigits`. -/
def valOf (t : Text) : Nat := t.foldl (fun a d => a * 10 + (d - 48)) 0

theorem valOf_digitsAux (f n : Nat) (h : n < f) : valOf (digitsAux f n []) = n := by
  induction f generalizing n with
  | zero => omega
  | succ f ih =>
    rw [digitsAux_succ]
    split
    · simp [valOf]
    · have := ih (n / 10) (by omega)
      simp only [valOf, List.foldl_append, List.foldl_cons, List.foldl_nil] at this ⊢
      omega

theorem valOf_natDigits (n : Nat) : valOf (natDigits n) = n := valOf_digitsAux (n + 1) n (by omega)

theorem natDigits_inj {a b : Nat} (h : natDigits a = natDigits b) : a = b := by
  simpa [valOf_natDigits] using congrArg valOf h

end Mcp.Str
