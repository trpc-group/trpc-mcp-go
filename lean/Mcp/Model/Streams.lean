/-
  The GET-stream table of one session (`streamable_server.go handleGet`, `cleanupSession`,
  `sendNotificationToGetSSE`) under interleaving.  Each GET is a handler thread that performs, as separate
  atomic steps: flush the response headers, store itself in the table (cancelling the stream it replaces),
  wait, wake up once cancelled, and leave (removing a table entry).  Sends interleave anywhere.
  Two structural facts of the source are parameters (regenerated in `Mcp.Gen.HandleGet`):
  * `flushBeforeStore`   – the headers are flushed before the table store,
  * `identityCheckOnExit` – the exit path removes the entry only if it is the handler's own connection.
-/
namespace Mcp.Streams

structure Facts where
  flushBeforeStore : Bool
  identityCheckOnExit : Bool
  /-- the exit path marks the connection closed under its write lock, and writers check the mark under that lock
      (otherwise a writer that looked the connection up before the exit writes to a finished response) -/
  closedMarkOnExit : Bool := true
  deriving Repr, DecidableEq

def Facts.good (f : Facts) : Bool := !f.flushBeforeStore && f.identityCheckOnExit

/-- One handler thread (one GET request). -/
structure H where
  opened : Bool := false
  stored : Bool := false
  flushed : Bool := false     -- the client has (or can have) received this stream's response headers
  cancelled : Bool := false   -- its context is cancelled (replaced by a newer stream, DELETE, or client gone)
  woken : Bool := false
  exited : Bool := false
  deriving Repr, DecidableEq

inductive Ev where
  | open_ (n : Nat)          -- a new GET arrives (fresh n)
  | flush (n : Nat)
  | store (n : Nat)
  | clientClose (n : Nat)    -- the client drops stream n
  | wake (n : Nat)
  | exit_ (n : Nat)
  | delete                   -- DELETE of the session: cleanupSession
  | send (m : Nat)           -- SendNotification / SendRequest addressed to the session (lookup and write back to back)
  | sendBegin (m : Nat)      -- …the table lookup of a send
  | sendEnd (m : Nat)        -- …its write on the connection it found
  | breakStream (n : Nat)    -- from now on writes on stream n fail (dead peer: EPIPE)
  deriving Repr, DecidableEq

structure St where
  hs : Nat → H := fun _ => {}
  table : Option Nat := none
  delivered : List (Nat × Nat) := []    -- (stream, message)
  failed : List Nat := []               -- messages whose send returned "session not found"
  inflight : List (Nat × Nat) := []     -- (message, connection found by the lookup) of sends between lookup and write
  crashed : List Nat := []              -- messages whose write hit a response whose handler had already returned (panic)
  broken : List Nat := []               -- streams on which writes fail
  dead : Bool := false                  -- the session was terminated (DELETE): a GET that has not yet passed the session lookup gets 404

def upd (f : Nat → H) (i : Nat) (v : H) : Nat → H := fun j => if j = i then v else f j
@[simp] theorem upd_same (f : Nat → H) (i : Nat) (v : H) : upd f i v i = v := by simp [upd]
theorem upd_other {f : Nat → H} {i j : Nat} {v : H} (h : j ≠ i) : upd f i v j = f j := by simp [upd, h]

def cancel (hs : Nat → H) (n : Nat) : Nat → H := upd hs n { hs n with cancelled := true }

def step (f : Facts) (s : St) : Ev → Option St
  | .open_ n => if (s.hs n).opened then none else some { s with hs := upd s.hs n { s.hs n with opened := true } }
  | .flush n =>
    let h := s.hs n
    if h.opened && !h.flushed && (f.flushBeforeStore || h.stored) && !(s.dead && !h.stored && !h.flushed) then
      some { s with hs := upd s.hs n { h with flushed := true } }
    else none
  | .store n =>
    let h := s.hs n
    if h.opened && !h.stored && (!f.flushBeforeStore || h.flushed) && !(s.dead && !h.stored && !h.flushed) then
      -- under the table lock: cancel the stream being replaced, then store
      let hs1 := match s.table with
        | some o => cancel s.hs o
        | none => s.hs
      some { s with hs := upd hs1 n { hs1 n with stored := true }, table := some n }
    else none
  | .clientClose n =>
    if (s.hs n).opened && !(s.hs n).exited then some { s with hs := cancel s.hs n } else none
  | .wake n =>
    let h := s.hs n
    if h.stored && h.flushed && h.cancelled && !h.woken then some { s with hs := upd s.hs n { h with woken := true } } else none
  | .exit_ n =>
    let h := s.hs n
    if h.woken && !h.exited then
      some { s with hs := upd s.hs n { h with exited := true },
                    table := if f.identityCheckOnExit then (if s.table = some n then none else s.table) else none }
    else none
  | .delete =>
    match s.table with
    | some o => some { s with hs := cancel s.hs o, table := none, dead := true }
    | none => some { s with dead := true }
  | .send m =>
    match s.table with
    | some c =>
      -- a failed write is reported to the caller and changes nothing else (in particular not the table)
      if s.broken.contains c then some { s with failed := s.failed ++ [m] }
      else some { s with delivered := s.delivered ++ [(c, m)] }
    | none => some { s with failed := s.failed ++ [m] }
  | .breakStream n => some { s with broken := n :: s.broken }
  | .sendBegin m =>
    if s.inflight.any (·.1 == m) then none else
    match s.table with
    | some c => some { s with inflight := s.inflight ++ [(m, c)] }
    | none => some { s with failed := s.failed ++ [m] }
  | .sendEnd m =>
    match s.inflight.find? (·.1 == m) with
    | none => none
    | some (_, c) =>
      let rest := s.inflight.filter (·.1 != m)
      if (s.hs c).exited then
        if f.closedMarkOnExit then some { s with inflight := rest, failed := s.failed ++ [m] }
        else some { s with inflight := rest, crashed := s.crashed ++ [m] }
      else if s.broken.contains c then some { s with inflight := rest, failed := s.failed ++ [m] }
      else some { s with inflight := rest, delivered := s.delivered ++ [(c, m)] }

def run (f : Facts) : St → List Ev → Option St
  | s, [] => some s
  | s, e :: es => match step f s e with
    | none => none
    | some s' => run f s' es

/-- A stream whose headers the client has seen and that nobody has ended. -/
def listening (s : St) (n : Nat) : Bool := (s.hs n).flushed && !(s.hs n).cancelled

end Mcp.Streams
