/-
  JSON values as the Go code sees them after `json.Unmarshal` into `interface{}` / `map[string]interface{}`,
  with lookup helpers that mirror Go's comma-ok type assertions (`v, ok := m[k].(string)`).

  Objects are association lists.  `lookup` returns the first binding; the Go decoders work on maps (unique keys), the
  encoders of this library never emit a key twice, and the driver builds objects from `Lean.Json` (unique keys), so
  first-match is the map lookup on everything the models are run on.
-/
import Mcp.Model.Str
namespace Mcp.Json
open Mcp.Str

inductive Json where
  | null
  | bool (b : Bool)
  | int (i : Int)
  /-- a number that is not an integer: `m · 10^(−e)` (normalised by the driver: `e > 0`, `10 ∤ m`) -/
  | dec (m : Int) (e : Nat)
  | str (s : Text)
  | arr (xs : List Json)
  | obj (kvs : List (Text × Json))

instance : Inhabited Json := ⟨.null⟩

/-- a JSON object as a Go `map[string]interface{}` -/
abbrev Obj := List (Text × Json)

/-- `v, ok := m[key]` -/
def lookup : Obj → Text → Option Json
  | [], _ => none
  | (k, v) :: rest, key => if k = key then some v else lookup rest key

/-- `_, ok := m[key]` -/
def hasKey (m : Obj) (key : Text) : Bool := (lookup m key).isSome

/-- `s, ok := v.(string)` -/
def asStr? : Json → Option Text
  | .str s => some s
  | _ => none

/-- `m, ok := v.(map[string]interface{})` -/
def asObj? : Json → Option Obj
  | .obj m => some m
  | _ => none

/-- `a, ok := v.([]interface{})` -/
def asArr? : Json → Option (List Json)
  | .arr a => some a
  | _ => none

/-- `b, ok := v.(bool)` -/
def asBool? : Json → Option Bool
  | .bool b => some b
  | _ => none

/-- `mcp.extractString` / `utils.ExtractString`: the value if the key is present *and* a string, otherwise `""`
    (a missing key, a non-string value and an empty string are not told apart). -/
def extractString (m : Obj) (key : Text) : Text :=
  match lookup m key with
  | some (.str s) => s
  | _ => []

/-- `mcp.extractMap` / `utils.ExtractMap`: `nil` unless present and an object (an empty object is a non-nil map). -/
def extractMap (m : Obj) (key : Text) : Option Obj :=
  match lookup m key with
  | some (.obj o) => some o
  | _ => none

/-- `utils.ExtractArray`: `nil` unless present and an array (`[]` is a non-nil empty slice: ranging over it is the same). -/
def extractArray (m : Obj) (key : Text) : Option (List Json) :=
  match lookup m key with
  | some (.arr a) => some a
  | _ => none

/-- `x, ok := m[key].(string)` keeping the comma-ok result (present-and-string vs anything else). -/
def lookupStr? (m : Obj) (key : Text) : Option Text :=
  match lookup m key with
  | some (.str s) => some s
  | _ => none

/-- A JSON value as the target of `json.Unmarshal(data, &m)` with `m map[string]interface{}`:
    an object gives the map, `null` leaves the nil map (no error), everything else is an error. -/
inductive AsMap where
  | map (m : Obj)
  | nilMap
  | typeError

def asMapTarget : Json → AsMap
  | .obj m => .map m
  | .null => .nilMap
  | _ => .typeError

@[simp] theorem lookup_nil (k : Text) : lookup [] k = none := rfl
@[simp] theorem lookup_cons_eq (k : Text) (v : Json) (rest : Obj) : lookup ((k, v) :: rest) k = some v := by
  simp [lookup]
theorem lookup_cons_ne (k k' : Text) (v : Json) (rest : Obj) (h : k ≠ k') : lookup ((k, v) :: rest) k' = lookup rest k' := by
  simp [lookup, h]

theorem lookup_eq_find? (m : Obj) (k : Text) : lookup m k = (m.find? (·.1 = k)).map (·.2) := by
  induction m with
  | nil => rfl
  | cons kv m ih => by_cases h : kv.1 = k <;> simp [lookup, h, ih]

/-- first match: the left part answers whenever it binds the key at all -/
theorem lookup_append (a b : Obj) (k : Text) : lookup (a ++ b) k = (lookup a k).or (lookup b k) := by
  simp [lookup_eq_find?, Option.map_or]

/-- for any association list: objects, registries, handler tables -/
theorem find?_filter_key {α} (l : List (Text × α)) (q : Text → Bool) (k : Text) :
    (l.filter (fun p => q p.1)).find? (·.1 = k) = if q k then l.find? (·.1 = k) else none := by
  rw [List.find?_filter]
  split
  · next h => congr 1; funext p; by_cases hp : p.1 = k <;> simp [hp, h]
  · next h =>
    refine List.find?_eq_none.mpr fun p _ hp => h ?_
    obtain ⟨hq, e⟩ := of_decide_eq_true hp
    exact of_decide_eq_true e ▸ hq

end Mcp.Json
