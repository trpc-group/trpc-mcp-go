/-
  Writers sharing one byte stream (C09).  A frame is written as a list of chunks — one `Write` call each; a
  single `Write` on the underlying writer is atomic, a frame made of several calls is not.  Threads may start
  a frame at any time; with the lock discipline (`locked = true`) a frame may start only when no other frame
  is in progress.  The chunkings of the real writers are in `Wire`.
-/
import Mcp.Model.Str
namespace Mcp.Frames
open Mcp.Str

inductive Ev where
  | start (t : Nat) (f : List Text)     -- thread t begins to write a frame consisting of these chunks
  | write (t : Nat)                      -- thread t writes its next chunk
  | finish (t : Nat)                     -- thread t has written all chunks (and releases the lock)
  deriving Repr

structure St where
  out : Text := []                                   -- the byte stream so far
  cur : Nat → Option (List Text × Text) := fun _ => none   -- per thread: remaining chunks, part already written
  holder : Option Nat := none                        -- the thread holding the stream lock (locked discipline)
  done : List Text := []                             -- frames completed, in completion order
  started : List Text := []                          -- frames started, in start order

def upd (f : Nat → α) (i : Nat) (v : α) : Nat → α := fun j => if j = i then v else f j

@[simp] theorem upd_same (f : Nat → α) (i : Nat) (v : α) : upd f i v i = v := by simp [upd]
theorem upd_other (f : Nat → α) (i j : Nat) (v : α) (h : j ≠ i) : upd f i v j = f j := by simp [upd, h]
theorem upd_upd (f : Nat → α) (i : Nat) (a b : α) : upd (upd f i a) i b = upd f i b := by
  funext j; simp only [upd]; split <;> rfl

/-- One step; `none` when the event is not enabled. -/
def step (locked : Bool) (s : St) : Ev → Option St
  | .start t f =>
    if (s.cur t).isSome then none
    else if locked && s.holder.isSome then none
    else some { s with cur := upd s.cur t (some (f, [])),
                       holder := if locked then some t else s.holder,
                       started := s.started ++ [f.flatten] }
  | .write t =>
    match s.cur t with
    | some (c :: rest, acc) => some { s with out := s.out ++ c, cur := upd s.cur t (some (rest, acc ++ c)) }
    | _ => none
  | .finish t =>
    match s.cur t with
    | some ([], acc) => some { s with cur := upd s.cur t none,
                                      holder := if locked then none else s.holder,
                                      done := s.done ++ [acc] }
    | _ => none

def run (locked : Bool) : St → List Ev → Option St
  | s, [] => some s
  | s, e :: es => match step locked s e with
    | none => none
    | some s' => run locked s' es

def idle (s : St) : Prop := ∀ t, s.cur t = none

/-! ### reference reader for newline-terminated frames (stdio) -/

/-- Split a byte stream at LF: complete lines (without the LF) and the unterminated rest. -/
def splitLF : Text → Text → List Text × Text
  | acc, [] => ([], acc)
  | acc, c :: cs => if c = 10 then
      let (ls, r) := splitLF [] cs
      (acc :: ls, r)
    else splitLF (acc ++ [c]) cs

def lines (s : Text) : List Text × Text := splitLF [] s

/-- linear-time version of `splitLF` for the compiled driver (the accumulator is kept reversed); proved equal below and
    substituted by the compiler only (`csimp`) — theorems are about `splitLF`. -/
def splitLFFast : Text → Text → List Text × Text
  | racc, [] => ([], racc.reverse)
  | racc, c :: cs => if c = 10 then
      let (ls, r) := splitLFFast [] cs
      (racc.reverse :: ls, r)
    else splitLFFast (c :: racc) cs

theorem splitLFFast_eq (racc s : Text) : splitLFFast racc s = splitLF racc.reverse s := by
  induction s generalizing racc with
  | nil => simp [splitLFFast, splitLF]
  | cons c cs ih =>
    by_cases h : c = 10 <;> simp [splitLFFast, splitLF, h, ih]

def linesFast (s : Text) : List Text × Text := splitLFFast [] s

@[csimp] theorem lines_eq_fast : @lines = @linesFast := by
  funext s; simp [lines, linesFast, splitLFFast_eq]

/-- stdio framing of a message already rendered as one JSON text: the text, then LF
    (`stdio_server.go writeResponse`: `Write(data)`, `Write("\n")`; one chunk after the repair). -/
def stdioChunks (twoWrites : Bool) (msg : Text) : List Text :=
  if twoWrites then [msg, [10]] else [msg ++ [10]]

/-! ### SSE event writers, chunk by chunk -/

/-- Go `strings.Split(s, "\n")`. -/
def splitOnLF : Text → Text → List Text
  | acc, [] => [acc]
  | acc, c :: cs => if c = 10 then acc :: splitOnLF [] cs else splitOnLF (acc ++ [c]) cs

/-- linear-time version of `splitOnLF` for the compiled driver; proved equal, substituted by the compiler only. -/
def splitOnLFFast : Text → Text → List Text
  | racc, [] => [racc.reverse]
  | racc, c :: cs => if c = 10 then racc.reverse :: splitOnLFFast [] cs else splitOnLFFast (c :: racc) cs

theorem splitOnLFFast_eq (racc s : Text) : splitOnLFFast racc s = splitOnLF racc.reverse s := by
  induction s generalizing racc with
  | nil => simp [splitOnLFFast, splitOnLF]
  | cons c cs ih =>
    by_cases h : c = 10 <;> simp [splitOnLFFast, splitOnLF, h, ih]

/-- `splitOnLF` as the event writer calls it (empty accumulator) -/
def splitLinesLF (s : Text) : List Text := splitOnLF [] s

def splitLinesLFFast (s : Text) : List Text := splitOnLFFast [] s

@[csimp] theorem splitLinesLF_eq_fast : @splitLinesLF = @splitLinesLFFast := by
  funext s; simp [splitLinesLF, splitLinesLFFast, splitOnLFFast_eq]

/-- Go `strings.TrimSuffix(s, "\n")`. -/
def trimSuffixLF (s : Text) : Text :=
  match s.reverse with
  | 10 :: r => r.reverse
  | _ => s

/-- `sseutil.Writer.WriteEvent`: one `Fprintf` for the id line, one per data line, one for the blank line. -/
def sseEventChunks (id data : Text) : List Text :=
  [t!"id: " ++ id ++ [10]] ++
  (if data.isEmpty then [] else (splitLinesLF (trimSuffixLF data)).map (fun l => t!"data: " ++ l ++ [10])) ++
  [[10]]

/-- Go `strings.ReplaceAll(s, "\n", "\ndata: ")`. -/
def replaceLF : Text → Text
  | [] => []
  | c :: cs => if c = 10 then 10 :: (t!"data: " ++ replaceLF cs) else c :: replaceLF cs

/-- legacy `formatSSEEvent(eventType, data)` (one string, written with a single `Fprint`). -/
def formatSSEEvent (eventType data : Text) : Text :=
  (if eventType.isEmpty then [] else t!"event: " ++ eventType ++ [10]) ++
  (if data.isEmpty then [] else t!"data: " ++ replaceLF data ++ [10]) ++ [10]

end Mcp.Frames
