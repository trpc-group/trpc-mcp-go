/-
  Identifiers: hex rendering of session ids (`hex.EncodeToString`), SSE event ids (`evt-<ms>-<counter>`),
  and Go's `%v` rendering of JSON-RPC ids (int64 vs float64), used as pending-table keys.
-/
import Mcp.Model.Str
namespace Mcp.Ids
open Mcp.Str

def hexDigit (d : Nat) : Nat := if d < 10 then 48 + d else 87 + d

/-- `hex.EncodeToString` on a list of bytes. -/
def hexEncode : List Nat → Text
  | [] => []
  | b :: bs => hexDigit (b / 16) :: hexDigit (b % 16) :: hexEncode bs

theorem hexDigit_inj {a b : Nat} (ha : a < 16) (hb : b < 16) (h : hexDigit a = hexDigit b) : a = b := by
  unfold hexDigit at h; split at h <;> split at h <;> omega

theorem hexDigit_char {d : Nat} (h : d < 16) :
    (48 ≤ hexDigit d ∧ hexDigit d ≤ 57) ∨ (97 ≤ hexDigit d ∧ hexDigit d ≤ 102) := by
  unfold hexDigit; split <;> omega

theorem hexEncode_length (a : List Nat) : (hexEncode a).length = 2 * a.length := by
  induction a with
  | nil => rfl
  | cons b bs ih => simp [hexEncode, ih]; omega

theorem hexEncode_inj (a b : List Nat) (ha : ∀ x ∈ a, x < 256) (hb : ∀ x ∈ b, x < 256)
    (h : hexEncode a = hexEncode b) : a = b := by
  induction a generalizing b with
  | nil => cases b with
    | nil => rfl
    | cons y ys => cases h
  | cons x xs ih =>
    cases b with
    | nil => cases h
    | cons y ys =>
      obtain ⟨hx, ha⟩ := List.forall_mem_cons.mp ha
      obtain ⟨hy, hb⟩ := List.forall_mem_cons.mp hb
      simp only [hexEncode, List.cons.injEq] at h
      -- a byte is determined by its two digits
      have e1 := hexDigit_inj (by omega) (by omega) h.1
      have e2 := hexDigit_inj (Nat.mod_lt _ (by omega)) (Nat.mod_lt _ (by omega)) h.2.1
      rw [ih ys ha hb h.2.2, show x = y by omega]

theorem hexEncode_chars (a : List Nat) (ha : ∀ x ∈ a, x < 256) :
    ∀ ch ∈ hexEncode a, (48 ≤ ch ∧ ch ≤ 57) ∨ (97 ≤ ch ∧ ch ≤ 102) := by
  induction a with
  | nil => nofun
  | cons x xs ih =>
    obtain ⟨hx, ha⟩ := List.forall_mem_cons.mp ha
    simp only [hexEncode, List.forall_mem_cons]
    exact ⟨hexDigit_char (by omega), hexDigit_char (Nat.mod_lt _ (by omega)), ih ha⟩

end Mcp.Ids

/-!
  ## JSON-RPC ids as pending-table keys (C01, C05) — add-only extension

  Go renders an id held in an `interface{}` with `fmt.Sprintf("%v", id)`:
  * an `int64` prints as its decimal digits (`strconv.FormatInt`);
  * a `float64` prints as `%g` with the shortest digits that round-trip, and switches to exponent form iff the decimal
    exponent is `< -4` or `>= 6` — measured on the real runtime: `999999 ↦ "999999"`, `1000000 ↦ "1e+06"`,
    `1234567 ↦ "1.234567e+06"`, `2147483648 ↦ "2.147483648e+09"`, `9007199254740992 ↦ "9.007199254740992e+15"`.
  A JSON number decoded into an `interface{}` is always a `float64`.  For an integer `|n| ≤ 2^53` the float is exact and
  its shortest digits are the decimal digits of `n` without trailing zeros (any shorter decimal is a multiple of ten and
  so a different integer, and neighbouring floats are at least 1 apart up to `2^53`).
-/
namespace Mcp.Ids
open Mcp.Str

/-- decimal digits of `n` without trailing zeros (`"1200000" ↦ "12"`). -/
def stripZeros (ds : Text) : Text := (ds.reverse.dropWhile (· == 48)).reverse

/-- exponent part after `e+`: at least two digits. -/
def expText (e : Nat) : Text := if e < 10 then 48 :: natDigits e else natDigits e

/-- `%e`-shaped shortest rendering of a float64 holding the positive integer `n ≤ 2^53`: `d[.ddd]e+XX`. -/
def sciText (n : Nat) : Text :=
  let ds := natDigits n
  (match stripZeros ds with
   | [] => [48]
   | [d] => [d]
   | d :: rest => d :: 46 :: rest) ++ (101 :: 43 :: expText (ds.length - 1))

/-- `fmt.Sprintf("%v", float64(n))` for a natural `n ≤ 2^53`. -/
def fmtVFloatNat (n : Nat) : Text := if n < 1000000 then natDigits n else sciText n

/-- `fmt.Sprintf("%v", float64(i))` for an integer `|i| ≤ 2^53`. -/
def fmtVFloatInt : Int → Text
  | .ofNat n => fmtVFloatNat n
  | .negSucc n => 45 :: fmtVFloatNat (n + 1)

/-- `fmt.Sprintf("%v", int64(i))`. -/
def fmtVInt (i : Int) : Text := intText i

/-- least `e' ≥ e` with `n / 2^e' < 2^53` (fuel-bounded). -/
def dropBits : Nat → Nat → Nat → Nat
  | 0, _, e => e
  | f + 1, n, e => if n / 2 ^ e < 2 ^ 53 then e else dropBits f n (e + 1)

/-- The float64 nearest to the natural number `n` (round to nearest, ties to even, 53-bit significand), as a natural
    number.  Domain `n < 2^1024` (above that Go's decoder refuses the number). -/
def f64OfNat (n : Nat) : Nat :=
  let e := dropBits 1100 n 0
  if e = 0 then n else
    let q := n / 2 ^ e
    let r := n % 2 ^ e
    let half := 2 ^ (e - 1)
    (if r > half ∨ (r = half ∧ q % 2 = 1) then q + 1 else q) * 2 ^ e

def f64OfInt : Int → Int
  | .ofNat n => .ofNat (f64OfNat n)
  | .negSucc n => - (Int.ofNat (f64OfNat (n + 1)))

/-- Go `int64(f)` of a float64 holding the integer `v` (amd64: out of range gives `math.MinInt64`; measured). -/
def i64OfF64 (v : Int) : Int := if -(2 ^ 63 : Int) ≤ v ∧ v < 2 ^ 63 then v else -(2 ^ 63 : Int)

/-- Go `uint64(f)` of a float64 holding the integer `v` (amd64; measured: `-1 ↦ 2^64-1`, `1e30 ↦ 2^63`). -/
def u64OfF64 (v : Int) : Int :=
  if 0 ≤ v ∧ v < 2 ^ 64 then v
  else if -(2 ^ 63 : Int) ≤ v ∧ v < 0 then 2 ^ 64 + v
  else 2 ^ 63

/-- Go `uint64(i)` of an `int64`. -/
def u64OfI64 (i : Int) : Int := if 0 ≤ i then i else 2 ^ 64 + i

/-! ### lemmas -/

theorem sciText_has_e (n : Nat) : 101 ∈ sciText n := by
  simp [sciText]

theorem fmtVFloatNat_small {n : Nat} (h : n < 1000000) : fmtVFloatNat n = natDigits n := by
  simp [fmtVFloatNat, h]

/-- from one million on the float rendering is in exponent form and can never equal a decimal rendering. -/
theorem fmtVFloatNat_large_ne {n : Nat} (h : 1000000 ≤ n) (c : Nat) : fmtVFloatNat n ≠ natDigits c := by
  intro he
  have h1 : fmtVFloatNat n = sciText n := by simp [fmtVFloatNat]; omega
  have h2 : 101 ∈ natDigits c := by rw [← he, h1]; exact sciText_has_e n
  have := natDigits_chars c 101 h2
  omega

/-- a float-rendered id equals an int-rendered id only for the same integer. -/
theorem fmtV_sound {a c : Nat} (h : fmtVFloatNat a = natDigits c) : a = c := by
  by_cases ha : a < 1000000
  · rw [fmtVFloatNat_small ha] at h; exact natDigits_inj h
  · exact absurd h (fmtVFloatNat_large_ne (by omega) c)

theorem dropBits_zero {n : Nat} (h : n < 2 ^ 53) : dropBits 1100 n 0 = 0 := by
  simp [dropBits, h]

/-- Integers up to 2^53 are float64 values (2^53 itself included: it is a power of two). -/
theorem f64OfNat_le {n : Nat} (h : n ≤ 2 ^ 53) : f64OfNat n = n := by
  by_cases hn : n < 2 ^ 53
  · simp [f64OfNat, dropBits_zero hn]
  · obtain rfl : n = 2 ^ 53 := by omega
    decide

theorem i64OfF64_ofNat {n : Nat} (h : n < 2 ^ 63) : i64OfF64 (Int.ofNat n) = Int.ofNat n := by
  rw [Int.ofNat_eq_natCast]; unfold i64OfF64; split <;> omega

theorem u64OfF64_ofNat {n : Nat} (h : n < 2 ^ 64) : u64OfF64 (Int.ofNat n) = u64OfI64 (Int.ofNat n) := by
  rw [Int.ofNat_eq_natCast]; unfold u64OfF64 u64OfI64; repeat' split
  all_goals omega

end Mcp.Ids
