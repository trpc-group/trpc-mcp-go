-- GENERATED by checklib/mkmain.py
import Mcp.Drv.Calls
import Mcp.Drv.Content
import Mcp.Drv.Ctx
import Mcp.Drv.Frames
import Mcp.Drv.InCall
import Mcp.Drv.Lifecycle
import Mcp.Drv.Middleware
import Mcp.Drv.Pending
import Mcp.Drv.Races
import Mcp.Drv.Readers
import Mcp.Drv.Registry
import Mcp.Drv.ReqPaths
import Mcp.Drv.Retry
import Mcp.Drv.Routing
import Mcp.Drv.Rpc
import Mcp.Drv.Rpcalike
import Mcp.Drv.Rpcclients
import Mcp.Drv.Rpcsurvive
import Mcp.Drv.Schema
import Mcp.Drv.Session
import Mcp.Drv.Streams
import Mcp.Drv.Util
import Mcp.Gen.ApiArgs
import Mcp.Gen.CallFacts
import Mcp.Gen.Consts
import Mcp.Gen.CtxFlow
import Mcp.Gen.FieldLocks
import Mcp.Gen.Globals
import Mcp.Gen.GoClosures
import Mcp.Gen.HandleGet
import Mcp.Gen.InCallFacts
import Mcp.Gen.LifecycleFacts
import Mcp.Gen.MiddlewareFacts
import Mcp.Gen.PendingClients
import Mcp.Gen.PendingFacts
import Mcp.Gen.ReaderFacts
import Mcp.Gen.RegistryLocks
import Mcp.Gen.ReqPaths
import Mcp.Gen.RpcFacts
import Mcp.Gen.SchemaTagFacts
import Mcp.Gen.SessionFacts
import Mcp.Gen.Writers
import Mcp.Lemmas.Keys
import Mcp.Lemmas.Lines
import Mcp.Lemmas.Lockset
import Mcp.Lemmas.Rpc
import Mcp.Model.ApiArgs
import Mcp.Model.Calls
import Mcp.Model.Content
import Mcp.Model.Ctx
import Mcp.Model.Entries
import Mcp.Model.Escape
import Mcp.Model.Frames
import Mcp.Model.Globals
import Mcp.Model.GoClosures
import Mcp.Model.Ids
import Mcp.Model.InCall
import Mcp.Model.Json
import Mcp.Model.Lifecycle
import Mcp.Model.Lockset
import Mcp.Model.Middleware
import Mcp.Model.Pending
import Mcp.Model.Readers
import Mcp.Model.Registry
import Mcp.Model.ReqPaths
import Mcp.Model.Retry
import Mcp.Model.Routing
import Mcp.Model.RoutingToday
import Mcp.Model.Rpc
import Mcp.Model.RpcClient
import Mcp.Model.RpcSpec
import Mcp.Model.Schema
import Mcp.Model.SchemaRegistry
import Mcp.Model.SchemaTags
import Mcp.Model.Session
import Mcp.Model.Str
import Mcp.Model.Streams
import Mcp.Model.StreamsSplit
import Mcp.Props.C01
import Mcp.Props.C01Echo
import Mcp.Props.C02
import Mcp.Props.C02Wire
import Mcp.Props.C03
import Mcp.Props.C04
import Mcp.Props.C05
import Mcp.Props.C06
import Mcp.Props.C07
import Mcp.Props.C08
import Mcp.Props.C09
import Mcp.Props.C09Sse
import Mcp.Props.C10
import Mcp.Props.C11
import Mcp.Props.C12
import Mcp.Props.C13
import Mcp.Props.C14
import Mcp.Props.C15
import Mcp.Props.C16
import Mcp.Props.C17
import Mcp.Props.C17Tab.Defs
import Mcp.Props.C18
import Mcp.Props.C19
import Mcp.Props.C20
